import Klepto.Lemmas.CallRel
import Klepto.Lemmas.WF
/-!
# C05 — Capacity: a bounded cache never grows past its bound

Theorems about model M3 (`Klepto/Model/Wrapper.lean`).  `WF` is the bookkeeping invariant proved
inductive in `Lemmas/WF.lean`.  The only outcome excluded from the per-call bound is `mru`'s
`IndexError` (finding F2: overflow with an empty recency queue); the only configuration excluded
from the history-level bound is `mru` with `purge` (finding F27: stale queue entry after a purge).
Both are witnessed by the counter-examples at the end of the file, which are replayed on the real code
by the harness (`corpus/`).
-/
namespace Klepto.C05
open AMap
variable {K V : Type} [DecidableEq K]

theorem lfu_fold_le (vs : List (K × Nat)) (s : St K V) :
    (vs.foldl (fun s p => { evictOne s p.1 with uc := erase s.uc p.1 }) s).c.mem.length ≤ s.c.mem.length :=
  lfu_fold_induction (P := fun s' => s'.c.mem.length ≤ s.c.mem.length) vs (Nat.le_refl _) fun s' k h =>
    Nat.le_trans (by simp [length_erase_le]) h

/-- The `# purge cache` block: whenever it fires and does not raise, memory shrinks by at least
one entry — for purge and for each of the four eviction policies. -/
theorem overflow_shrinks (cfg : Cfg) (s s' : St K V) (victim : Option K)
    (hW : WF cfg s)
    (hu : cfg.algo = .lfu → s.uc ≠ [])
    (hv : cfg.algo = .rr → ∃ k, victim = some k ∧ has s.c.mem k = true)
    (halg : cfg.algo ≠ .inf ∧ cfg.algo ≠ .no)
    (hover : s.c.mem.length > cfg.maxsize)
    (h : overflow cfg s victim = some s') : s'.c.mem.length + 1 ≤ s.c.mem.length := by
  have hev : ∀ k, has s.c.mem k = true → (evictOne s k).c.mem.length + 1 ≤ s.c.mem.length := fun k hk => by
    rw [evictOne_mem]; exact Nat.le_of_eq (length_erase_add_one _ _ hk)
  cases overflow_some h with
  | fits hle => exact absurd hover (Nat.not_lt.mpr hle)
  | unbounded hn => exact absurd hn (not_or.mpr ⟨halg.2, halg.1⟩)
  | rrNone ha hn => obtain ⟨k, hk, _⟩ := hv ha; rw [hn] at hk; cases hk
  | purge => exact Nat.succ_le_of_lt (Nat.lt_of_le_of_lt (Nat.zero_le _) hover)
  | lfu ha =>
    cases hvs : nsmallest (max 2 (cfg.maxsize / 10)) s.uc with
    | nil =>
      have hl := length_nsmallest (max 2 (cfg.maxsize / 10)) s.uc
      have := List.length_pos_iff.mpr (hu ha)
      rw [hvs, List.length_nil] at hl; omega
    | cons p vs =>
      have hp : p ∈ s.uc := nsmallest_subset _ _ p (hvs ▸ List.mem_cons_self)
      exact Nat.le_trans (Nat.succ_le_succ (lfu_fold_le vs _)) (hev p.1 (hW.ucRes p.1 (List.mem_map_of_mem hp)))
  | lru k q rc _ hloop => exact hev k (hW.queueRes k (lruLoop_mem _ _ _ _ _ hloop).1)
  | mru k _ hk => exact hev k (hW.queueRes k (List.mem_of_getLast? hk))
  | rr k ha hk => obtain ⟨k', hk', hres⟩ := hv ha; rw [hk] at hk'; cases hk'; exact hev k hres

/-- rr: the victim the harness recorded is resident once the entry of the call is in -/
theorem victimOK_ins {cfg : Cfg} {s : St K V} {ci : CallIn K V} {c2 : Cache K V} {k : K} {v : V}
    (h : victimOK cfg s ci = true) (hk : ci.key = .ok k) (hins : Ins s.c c2 k v) (ha : cfg.algo = .rr) :
    ∃ kv, ci.victim = some kv ∧ has c2.mem kv = true := by
  unfold victimOK at h
  simp only [ha, hk] at h
  cases hvi : ci.victim with
  | none => simp [hvi] at h
  | some kv =>
    simp only [hvi, Bool.or_eq_true, decide_eq_true_eq] at h
    refine ⟨kv, rfl, ?_⟩
    rw [hins.mem, has_put, Bool.or_eq_true, decide_eq_true_eq]
    exact h.symm.imp Eq.symm id

/-- the tail of a LOAD or a MISS: one entry came in, so the result is within `max maxsize (count before)` -/
theorem finish_ins_bound (cfg : Cfg) {s : St K V} {c2 : Cache K V} {k : K} {v : V} (a b c n : Nat) (victim : Option K)
    (halg : cfg.algo ≠ .inf ∧ cfg.algo ≠ .no) (hW : WF cfg s) (hins : Ins s.c c2 k v)
    (hv : cfg.algo = .rr → ∃ kv, victim = some kv ∧ has c2.mem kv = true)
    (hne : (finish cfg { useKey cfg { s with c := c2 } k with hit := a, miss := b, load := c } k v n victim).2.isIndexError
      = false) :
    (finish cfg { useKey cfg { s with c := c2 } k with hit := a, miss := b, load := c } k v n victim).1.c.mem.length
      ≤ max cfg.maxsize s.c.mem.length := by
  have hlen : c2.mem.length = s.c.mem.length + 1 := by
    simp [hins.mem, length_put, (has_eq_false_iff _ _).mpr hins.absent]
  rcases finish_cases cfg { useKey cfg { s with c := c2 } k with hit := a, miss := b, load := c } k v n victim
    with ⟨hi, _⟩ | hf | ⟨s3, ho, hf⟩
  · exact absurd hi halg.1
  · rw [hf] at hne; cases hne
  · rw [hf, post_c]
    by_cases hover : c2.mem.length > cfg.maxsize
    · have := overflow_shrinks cfg _ s3 victim (wf_stats a b c (wf_ins hW hins))
        (fun hlfu => by simp only [useKey, hlfu]; exact put_ne_nil _ _ _) (by simpa only [useKey_c] using hv) halg
        (by simpa only [useKey_c] using hover) ho
      rw [useKey_c, hlen] at this
      exact Nat.le_trans (Nat.le_of_succ_le_succ this) (Nat.le_max_right _ _)
    · rw [overflow_of_le _ _ _ (by simpa only [useKey_c] using Nat.le_of_not_gt hover)] at ho
      cases ho; simp only [useKey_c]
      exact Nat.le_trans (Nat.le_of_not_gt hover) (Nat.le_max_left _ _)

/-- **C05, one call.**  After every call the number of resident entries is at most
`max maxsize (number resident before)` — lfu/lru/mru/rr, std and safe, purge on or off, archived
or not, hit/load/miss/raise/key-failure; the only excluded outcome is `IndexError` (mru, F2). -/
theorem C05_step (cfg : Cfg) (s : St K V) (ci : CallIn K V)
    (halg : cfg.algo ≠ .inf ∧ cfg.algo ≠ .no) (hW : WF cfg s)
    (hvok : victimOK cfg s ci = true)
    (hne : (call cfg s ci).2.isIndexError = false) :
    (call cfg s ci).1.c.mem.length ≤ max cfg.maxsize s.c.mem.length := by
  rw [call_eq_callCached halg.2] at hne ⊢
  refine callCached_cases (motive := fun r => r.2.isIndexError = false →
    r.1.c.mem.length ≤ max cfg.maxsize s.c.mem.length) cfg s ci ?_ ?_ ?_ ?_ ?_ hne
  · intro e _ _; rw [keyFail_c]; exact Nat.le_max_right _ _
  · intro k v _ _ _; rw [hitStep_c]; exact Nat.le_max_right _ _
  · intro k v hk hm ha
    have hins := ins_load s.c k v hm ha
    exact finish_ins_bound cfg _ _ _ 0 _ halg hW hins (victimOK_ins hvok hk hins)
  · intros; exact Nat.le_max_right _ _
  · intro k v hk hm ha _
    have hins := ins_miss s.c k v hm ha
    exact finish_ins_bound cfg _ _ _ 1 _ halg hW hins (victimOK_ins hvok hk hins)

/-- what the harness guarantees about a call: `random.choice` picked a key that was resident after
the insertion (rr), and the call did not end in mru's `IndexError` (F2) -/
def okCall (cfg : Cfg) (s : St K V) (ci : CallIn K V) : Bool :=
  victimOK cfg s ci && !(call cfg s ci).2.isIndexError

/-- operations that may legitimately over-fill the cache (`load`) are excluded from the
"starts within its bound, stays within its bound" statement, exactly as in the property text -/
def okOp (cfg : Cfg) (s : St K V) : Op K V → Bool
  | .call ci => okCall cfg s ci
  | .load _ => false
  | .loadAll => false
  | _ => true

def okRun (cfg : Cfg) : St K V → List (Op K V) → Bool
  | _, [] => true
  | s, op :: ops => okOp cfg s op && okRun cfg (step cfg s op).1 ops

theorem step_mem_le (cfg : Cfg) (s : St K V) (op : Op K V) (halg : cfg.algo ≠ .inf ∧ cfg.algo ≠ .no)
    (hW : WF cfg s) (hok : okOp cfg s op = true) :
    (step cfg s op).1.c.mem.length ≤ max cfg.maxsize s.c.mem.length := by
  have same : op.touchesMem = false → (step cfg s op).1.c.mem.length ≤ max cfg.maxsize s.c.mem.length := fun ht => by
    obtain ⟨c', h1, h2⟩ := step_sameMem cfg s op ht
    rw [h1]; simp only [h2]; exact Nat.le_max_right _ _
  cases op with
  | call ci =>
    simp only [okOp, okCall, Bool.and_eq_true, Bool.not_eq_true'] at hok
    exact C05_step cfg s ci halg hW hok.1 hok.2
  | clear keep => cases keep <;> exact Nat.zero_le _
  | load | loadAll => cases hok
  | _ => exact same rfl

theorem run_mem_le (cfg : Cfg) (ops : List (Op K V)) (s : St K V)
    (halg : cfg.algo ≠ .inf ∧ cfg.algo ≠ .no) (hmp : MruNoPurge cfg) (hW : WF cfg s) (hok : okRun cfg s ops = true) :
    (run cfg s ops).1.c.mem.length ≤ max cfg.maxsize s.c.mem.length := by
  induction ops generalizing s with
  | nil => exact Nat.le_max_right _ _
  | cons op ops ih =>
    simp only [okRun, Bool.and_eq_true] at hok
    have h1 := step_mem_le cfg s op halg hW hok.1
    have h2 := ih _ (wf_step op hW hmp) hok.2
    simp only [run]
    exact Nat.le_trans h2 (Nat.max_le.mpr ⟨Nat.le_max_left _ _, h1⟩)

/-- **C05, histories.**  A bounded cache that starts within its bound never exceeds `maxsize`,
at any point of any history of calls interleaved with dump / clear / archive toggles / archive
replacement / external archive writes / lookups (bulk `load` may over-fill by design). -/
theorem C05_bound (cfg : Cfg) (ops : List (Op K V)) (s : St K V)
    (halg : cfg.algo ≠ .inf ∧ cfg.algo ≠ .no) (hmp : MruNoPurge cfg)
    (hW : WF cfg s) (h0 : s.c.mem.length ≤ cfg.maxsize) (hok : okRun cfg s ops = true) :
    (run cfg s ops).1.c.mem.length ≤ cfg.maxsize :=
  Nat.le_trans (run_mem_le cfg ops s halg hmp hW hok) (Nat.max_le.mpr ⟨Nat.le_refl _, h0⟩)

/-- every prefix of an admissible history is admissible, so `C05_bound` speaks about every
intermediate state -/
theorem okRun_take (cfg : Cfg) (ops : List (Op K V)) (s : St K V) (n : Nat) (h : okRun cfg s ops = true) :
    okRun cfg s (ops.take n) = true := by
  induction ops generalizing s n with
  | nil => simp [okRun]
  | cons op ops ih =>
    cases n with
    | zero => simp [okRun]
    | succ n =>
      simp only [okRun, Bool.and_eq_true, List.take_succ_cons] at h ⊢
      exact ⟨h.1, ih _ n h.2⟩

/-- **maxsize = 0** (`no_cache`): nothing stays resident after a completed keyed call -/
theorem C05_zero (cfg : Cfg) (s : St K V) (ci : CallIn K V) (k : K) (v : V) (n : Nat)
    (ha : cfg.algo = .no) (hk : ci.key = .ok k) (hr : (call cfg s ci).2 = .ret v n) :
    (call cfg s ci).1.c.mem = [] := by
  revert hr
  unfold call
  rw [if_pos ha]
  unfold callNo
  simp only [hk]
  split
  · intro _; rfl
  · split
    · intro hr; cases hr
    · intro _; rfl

/-- **maxsize = None** (`inf_cache`): a call never removes an entry -/
theorem C05_inf (cfg : Cfg) (s : St K V) (ci : CallIn K V) (j : K)
    (ha : cfg.algo = .inf) (hW : WF cfg s) (hj : has s.c.mem j = true) :
    has (call cfg s ci).1.c.mem j = true := by
  simp only [call, ha, reduceCtorEq, if_false, callCached_eq_with]
  rcases callCachedWith_split cfg s ci with ⟨x, hx, hc, _, _⟩ | ⟨s2, k, v, n, _, hins, _, hx⟩ <;> rw [hx]
  · rw [hc]; exact hj
  · simp [finish, ha, hins.mem, has_put, hj]

/-- **purge**: on an archived cache with `purge`, an overflow empties the in-memory cache -/
theorem C05_purge (cfg : Cfg) (s s' : St K V) (victim : Option K)
    (hp : cfg.purge = true) (harch : s.c.archived = true) (hover : s.c.mem.length > cfg.maxsize)
    (h : overflow cfg s victim = some s') : s'.c.mem = [] := by
  unfold overflow at h
  rw [if_pos hover, harch, hp] at h
  cases h; rfl

section Examples

def callOp (k v : Nat) (victim : Option Nat := none) : Op Nat Nat :=
  .call { key := .ok k, fn := .ok v, victim := victim }

def archivedCache : Cache Nat Nat := { mem := [], arch := some [], swap := none }

def lru2 : Cfg := { algo := .lru, safe := false, maxsize := 2, purge := false }
/-- fill, overflow (evicts 1 to the archive), hit, reload the victim (evicts again), dump, clear -/
def lruHist : List (Op Nat Nat) :=
  [callOp 1 10, callOp 2 20, callOp 3 30, callOp 2 20, callOp 1 10, .dumpAll, .clear true, callOp 4 40]

/-- the hypotheses of `C05_bound` are satisfiable by a history that evicts and reloads -/
example : okRun lru2 (St.init archivedCache) lruHist = true ∧
    (run lru2 (St.init archivedCache) lruHist).1.c.arch = some [(1, 10), (3, 30), (2, 20)] := by
  decide

def rr1 : Cfg := { algo := .rr, safe := true, maxsize := 1, purge := false }
example : okRun rr1 (St.init archivedCache) [callOp 1 10 (some 1), callOp 2 20 (some 1), callOp 3 30 (some 3)] = true := by
  decide

def mru1 : Cfg := { algo := .mru, safe := false, maxsize := 1, purge := false }
def f2Init : St Nat Nat := St.init { mem := [], arch := some [(5, 50), (6, 60)], swap := none }
/-- **F2** (excluded by `isIndexError = false`): `mru_cache`, two entries bulk-loaded, then a new key:
`IndexError`, and the cache has grown past `max maxsize before` -/
example : (run mru1 f2Init [.loadAll, callOp 7 70]).2 = [.unit, .raised .indexError 1] ∧
    (run mru1 f2Init [.loadAll, callOp 7 70]).1.c.mem.length = 3 := by
  decide

def mru1p : Cfg := { algo := .mru, safe := false, maxsize := 1, purge := true }
def f27Ops : List (Op Nat Nat) :=
  [callOp 1 10, callOp 2 20, .extPut 5 50, .extPut 6 60, .load [5, 6], .archivedOff, callOp 7 70]
/-- **F27** (excluded by `MruNoPurge`): after a purge the recency queue holds the non-resident key 2;
entries are loaded, archiving is switched off, and the next overflow evicts nothing: 3 > max 1 2 -/
example : (run mru1p (St.init archivedCache) f27Ops).2.getLast? = some (.ret 70 1) ∧
    (run mru1p (St.init archivedCache) f27Ops.dropLast).1.c.mem.length = 2 ∧
    (run mru1p (St.init archivedCache) f27Ops).1.c.mem.length = 3 := by
  decide

end Examples

end Klepto.C05
