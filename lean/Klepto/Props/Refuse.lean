import Klepto.Model.WrapperFail
import Klepto.Lemmas.CallRel
/-!
# Write-backs that the archive refuses (M3F, `Model/WrapperFail.lean`)

Every function of M3F is related to its M3 counterpart once, by a `_cases` lemma: it **is** M3's function, or a
write-back was refused - and then some value is refused (`Refuse.Bad`) and what is left behind is described.
An archive that refuses nothing leaves only the first alternative, so M3F **is** M3 there.  What a refused
`# purge cache` block leaves (`Stuck`) has the counters of M3 and a cache from which entries have only moved to
the archive, so `callCachedF_rel` describes the cache after the call as `callCached_rel` does and C07 holds of
refused calls too (`Props/C07Refuse.lean`): **what the archive refused has not left memory**.  What does NOT
survive is the size bound of C05 (`C05_refused_overfull`: the entry of the call is stored, the victim stays;
finding F57, run on the code by suite `multi`).
-/
namespace Klepto
open AMap
variable {K V : Type}

def Refuse.none' (V : Type) (e : Exc) : Refuse V := { bad := fun _ => false, bulkAtomic := true, exc := e }

def Refuse.Bad (r : Refuse V) : Prop := ∃ v, r.bad v = true

theorem Refuse.Bad.elim {r : Refuse V} {p : Prop} (hr : ∀ v, r.bad v = false) (h : r.Bad) : p := by
  obtain ⟨v, hv⟩ := h; rw [hr v] at hv; cases hv

theorem nodup_goodPrefix (r : Refuse V) (m : List (K × V)) (hn : (keys m).Nodup) :
    (keys (Cache.goodPrefix r m)).Nodup :=
  List.Nodup.sublist (List.Sublist.map _ (List.takeWhile_sublist _)) hn

variable [DecidableEq K]

theorem dump1F_cases (r : Refuse V) (c : Cache K V) (k : K) :
    c.dump1F r k = some (c.dump1 k) ∨ (c.dump1F r k = none ∧ r.Bad) := by
  unfold Cache.dump1F
  split
  · rename_i v _ _
    cases hb : r.bad v
    · exact Or.inl rfl
    · exact Or.inr ⟨rfl, v, hb⟩
  · exact Or.inl rfl

theorem get?_goodPrefix (r : Refuse V) (m : List (K × V)) (j : K) (v : V)
    (h : get? (Cache.goodPrefix r m) j = some v) : get? m j = some v := by
  have hm : m = Cache.goodPrefix r m ++ m.dropWhile (fun p => !r.bad p.2) :=
    List.takeWhile_append_dropWhile.symm
  rw [hm, get?_append, h, Option.some_or]

theorem dumpAllF_cases (r : Refuse V) (c : Cache K V) :
    c.dumpAllF r = .ok c.dumpAll ∨
    ∃ c', c.dumpAllF r = .error c' ∧ r.Bad ∧ c'.mem = c.mem ∧ ((keys c.mem).Nodup → Moved c c') := by
  unfold Cache.dumpAllF
  cases ha : c.arch with
  | none => exact Or.inl rfl
  | some a =>
    dsimp only
    by_cases hany : c.mem.any (fun p => r.bad p.2) = true
    · rw [if_pos hany]
      obtain ⟨p, _, hp⟩ := List.any_eq_true.mp hany
      refine Or.inr ⟨_, rfl, ⟨p.2, hp⟩, ?_⟩
      cases r.bulkAtomic with
      | true => exact ⟨rfl, fun _ => Moved.refl _⟩
      | false =>
        refine ⟨rfl, fun hn => ⟨⟨fun j => Or.inl rfl, fun j => ?_, rfl, by simp [Cache.archived, ha], id⟩,
          fun _ => leaves_of_mem_eq rfl, fun h a' ha' => ?_⟩⟩
        · -- the archive has taken the entries in front of the refused one
          simp only [Cache.aget, ha, Bool.false_eq_true, if_false]
          rw [get?_update_nodup _ _ _ (nodup_goodPrefix r c.mem hn)]
          cases hp : get? (Cache.goodPrefix r c.mem) j with
          | none => exact Or.inl rfl
          | some v =>
            have := get?_goodPrefix r c.mem j v hp
            exact Or.inr ⟨by rw [this]; rfl, by rw [this]; rfl⟩
        · cases ha'; exact nodup_keys_update _ _ (h a ha)
    · rw [if_neg hany]; exact Or.inl rfl

theorem dumpKeysF_cases (r : Refuse V) (c : Cache K V) (ks : List K) :
    c.dumpKeysF r ks = .ok (c.dumpKeys ks) ∨ ∃ ks', c.dumpKeysF r ks = .error (c.dumpKeys ks') ∧ r.Bad := by
  induction ks generalizing c with
  | nil => exact Or.inl rfl
  | cons k ks ih =>
    dsimp only [Cache.dumpKeysF]
    rcases dump1F_cases r c k with h | ⟨h, hb⟩
    · rw [h]
      rcases ih (c.dump1 k) with h' | ⟨ks', h', hb⟩
      · exact Or.inl h'
      · exact Or.inr ⟨k :: ks', h', hb⟩
    · rw [h]; exact Or.inr ⟨[], rfl, hb⟩

/-- what a refused `# purge cache` block leaves of `s` -/
structure Stuck (r : Refuse V) (s s' : St K V) : Prop where
  bad : r.Bad
  stats : s'.stats = s.stats
  moved : (keys s.c.mem).Nodup → Moved s.c s'.c

theorem Stuck.same_c {r : Refuse V} {s s' : St K V} (hb : r.Bad) (hs : s'.stats = s.stats) (hc : s'.c = s.c) :
    Stuck r s s' :=
  ⟨hb, hs, fun _ => hc ▸ Moved.refl _⟩

theorem lfuFoldF_cases (r : Refuse V) (vs : List (K × Nat)) (s : St K V) :
    lfuFoldF r vs s = (vs.foldl (fun s p => { evictOne s p.1 with uc := erase s.uc p.1 }) s, false) ∨
    ((lfuFoldF r vs s).2 = true ∧ Stuck r s (lfuFoldF r vs s).1) := by
  induction vs generalizing s with
  | nil => exact Or.inl rfl
  | cons p vs ih =>
    dsimp only [lfuFoldF, List.foldl_cons]
    rcases dump1F_cases r s.c p.1 with h | ⟨h, hb⟩
    · rw [h]
      rcases ih ({ s with c := (s.c.dump1 p.1).delMem p.1, uc := erase s.uc p.1 }) with h' | ⟨h', hst⟩
      · exact Or.inl h'
      · exact Or.inr ⟨h', hst.bad, hst.stats, fun hn =>
          have h1 := moved_evict s.c p.1 hn
          h1.trans (hst.moved (h1.rel.nodup hn))⟩
    · rw [h]; exact Or.inr ⟨rfl, Stuck.same_c hb rfl rfl⟩

theorem overflowF_cases (r : Refuse V) (cfg : Cfg) (s : St K V) (vi : Option K) :
    (overflowF r cfg s vi = match overflow cfg s vi with | none => .indexErr | some s' => .ok s') ∨
    ∃ s', overflowF r cfg s vi = .refused s' ∧ Stuck r s s' := by
  -- one victim: M3's eviction, or the archive refuses and the cache stays as it is
  have evict : ∀ (k : K) (ok : Cache K V → St K V) (stuck : St K V), stuck.stats = s.stats → stuck.c = s.c →
      (match s.c.dump1F r k with | some c => OvF.ok (ok c) | none => .refused stuck) = .ok (ok (s.c.dump1 k)) ∨
      ∃ s', (match s.c.dump1F r k with | some c => OvF.ok (ok c) | none => .refused stuck) = .refused s' ∧
        Stuck r s s' := fun k ok stuck hs hc => by
    rcases dump1F_cases r s.c k with h | ⟨h, hb⟩ <;> rw [h]
    · exact Or.inl rfl
    · exact Or.inr ⟨_, rfl, Stuck.same_c hb hs hc⟩
  unfold overflowF overflow
  by_cases hlen : s.c.mem.length > cfg.maxsize
  · rw [if_pos hlen, if_pos hlen]
    by_cases hp : (s.c.archived && cfg.purge) = true
    · rw [if_pos hp, if_pos hp]
      rcases dumpAllF_cases r s.c with h | ⟨c', h, hb, _, hmv⟩ <;> rw [h]
      · exact Or.inl rfl
      · exact Or.inr ⟨_, rfl, hb, rfl, hmv⟩
    · rw [if_neg hp, if_neg hp]
      cases cfg.algo with
      | no | inf => exact Or.inl rfl
      | lfu =>
        dsimp only
        rcases lfuFoldF_cases r (nsmallest (max 2 (cfg.maxsize / 10)) s.uc) s with h | ⟨h, hst⟩ <;> rw [h]
        · exact Or.inl rfl
        · exact Or.inr ⟨_, rfl, hst⟩
      | lru =>
        cases lruLoop s.queue s.rc with
        | none => exact Or.inl rfl
        | some x => exact evict x.1 _ _ rfl rfl
      | mru =>
        cases s.queue.getLast? with
        | none => exact Or.inl rfl
        | some k => exact evict k _ _ rfl rfl
      | rr =>
        cases vi with
        | none => exact Or.inl rfl
        | some k => exact evict k _ _ rfl rfl
  · rw [if_neg hlen, if_neg hlen]; exact Or.inl rfl

theorem finishF_cases (r : Refuse V) (cfg : Cfg) (s : St K V) (k : K) (v : V) (n : Nat) (vi : Option K) :
    finishF r cfg s k v n vi = finish cfg s k v n vi ∨
    ∃ s', Stuck r s s' ∧ finishF r cfg s k v n vi = (s', .raised r.exc n) := by
  unfold finishF finish
  split
  · exact Or.inl rfl
  · rcases overflowF_cases r cfg s vi with h | ⟨s', h, hst⟩
    · left; rw [h]; cases overflow cfg s vi <;> rfl
    · right; rw [h]; exact ⟨s', hst, rfl⟩

theorem callCachedF_eq_with (r : Refuse V) (cfg : Cfg) (s : St K V) (ci : CallIn K V) :
    callCachedF r cfg s ci = callCachedWith (finishF r cfg) cfg s ci := rfl

/-- M3F's call and M3's call take the same path: both leave the cache alone, or both insert the entry of the call and
run their own tail on the same state -/
theorem callCachedF_split (r : Refuse V) (cfg : Cfg) (s : St K V) (ci : CallIn K V) :
    (callCachedF r cfg s ci = callCached cfg s ci ∧ (callCached cfg s ci).1.c = s.c) ∨
    ∃ s2 k v n, ci.key = .ok k ∧ Ins s.c s2.c k v ∧ callCached cfg s ci = finish cfg s2 k v n ci.victim ∧
      callCachedF r cfg s ci = finishF r cfg s2 k v n ci.victim := by
  rw [callCachedF_eq_with, callCached_eq_with]
  rcases callCachedWith_split cfg s ci with ⟨x, hx, hc, _⟩ | ⟨s2, k, v, n, hk, hins, _, hx⟩
  · exact Or.inl ⟨by rw [hx, hx], by rw [hx]; exact hc⟩
  · exact Or.inr ⟨s2, k, v, n, hk, hins, hx _, hx _⟩

/-- so a reflexive relation between the two tails, on every state, holds between the two calls -/
theorem callCachedF_lift (r : Refuse V) (cfg : Cfg) (s : St K V) (ci : CallIn K V)
    {R : St K V × Out V → St K V × Out V → Prop} (hrefl : ∀ x, R x x)
    (h : ∀ s2 k v n, R (finishF r cfg s2 k v n ci.victim) (finish cfg s2 k v n ci.victim)) :
    R (callCachedF r cfg s ci) (callCached cfg s ci) := by
  rcases callCachedF_split r cfg s ci with ⟨h1, _⟩ | ⟨s2, k, v, n, _, _, h1, h2⟩
  · rw [h1]; exact hrefl _
  · rw [h1, h2]; exact h s2 k v n

theorem callCachedF_cases (r : Refuse V) (cfg : Cfg) (s : St K V) (ci : CallIn K V) :
    callCachedF r cfg s ci = callCached cfg s ci ∨ (r.Bad ∧ ∃ n, (callCachedF r cfg s ci).2 = .raised r.exc n) :=
  callCachedF_lift r cfg s ci (R := fun x y => x = y ∨ (r.Bad ∧ ∃ n, x.2 = .raised r.exc n)) (fun _ => Or.inl rfl)
    fun s2 k v n => (finishF_cases r cfg s2 k v n ci.victim).imp id fun ⟨_, hst, h⟩ => ⟨hst.bad, n, by rw [h]⟩

/-- **in every state, for every archive: a call of a caching decorator behaves exactly as in M3 (same state,
same outcome), or it raises the archive's exception** -/
theorem callCachedF_eq_or_refused (r : Refuse V) (cfg : Cfg) (s : St K V) (ci : CallIn K V) :
    callCachedF r cfg s ci = callCached cfg s ci ∨ ∃ n, (callCachedF r cfg s ci).2 = .raised r.exc n :=
  (callCachedF_cases r cfg s ci).imp id (·.2)

/-- what `callCached_rel` says of the cache after M3's call holds after M3F's call, refused or not -/
theorem callCachedF_rel (r : Refuse V) (cfg : Cfg) (s : St K V) (ci : CallIn K V) (hn : (keys s.c.mem).Nodup) :
    ∃ c2, (c2 = s.c ∨ ∃ k v, ci.key = .ok k ∧ Ins s.c c2 k v) ∧
      MoveRel c2 (callCachedF r cfg s ci).1.c ∧
      (s.c.archived = true → Leaves c2 (callCachedF r cfg s ci).1.c) := by
  rcases callCachedF_split r cfg s ci with ⟨h1, h2⟩ | ⟨s2, k, v, n, hk, hins, _, h2⟩
  · rw [h1, h2]; exact ⟨s.c, Or.inl rfl, MoveRel.refl _, fun _ => Leaves.refl _⟩
  · refine ⟨s2.c, Or.inr ⟨k, v, hk, hins⟩, ?_⟩
    rw [h2, ← hins.archived]
    have hm : Moved s2.c (finishF r cfg s2 k v n ci.victim).1.c := by
      rcases finishF_cases r cfg s2 k v n ci.victim with h | ⟨s', hst, h⟩ <;> rw [h]
      · exact moved_finish cfg s2 k v n _ (hins.nodup hn)
      · exact hst.moved (hins.nodup hn)
    exact ⟨hm.rel, hm.leaves⟩

theorem callNoF_cases (r : Refuse V) (cfg : Cfg) (s : St K V) (ci : CallIn K V) :
    callNoF r cfg s ci = callNo cfg s ci ∨
    (r.Bad ∧ ∃ c v, callNoF r cfg s ci = ({ s with c := c, miss := s.miss + 1 }, .raised r.exc 1) ∧
      (callNo cfg s ci).2 = .ret v 1) := by
  -- the write-back shared by the two evaluating paths: `if archived: dump()`
  have dump : ∀ c : Cache K V,
      (if c.archived then c.dumpAllF r else .ok c) = .ok (if c.archived then c.dumpAll else c) ∨
      (r.Bad ∧ ∃ c', (if c.archived then c.dumpAllF r else .ok c) = .error c') := fun c => by
    cases c.archived with
    | false => exact Or.inl rfl
    | true => exact (dumpAllF_cases r c).imp id fun ⟨c', h, hb, _⟩ => ⟨hb, c', h⟩
  unfold callNoF callNo
  cases ci.key with
  | genError e => exact Or.inl rfl
  | unhashable e =>
    cases cfg.safe with
    | false => exact Or.inl rfl
    | true =>
      cases ci.fn with
      | error e => exact Or.inl rfl
      | ok v =>
        rcases dump s.c with h | ⟨hb, c', h⟩ <;> rw [h]
        · exact Or.inl rfl
        · exact Or.inr ⟨hb, c', v, rfl, rfl⟩
  | ok k =>
    dsimp only
    cases get? (s.c.preload k).mem k with
    | some v => exact Or.inl rfl
    | none =>
      cases ci.fn with
      | error e => exact Or.inl rfl
      | ok v =>
        dsimp only
        rcases dump { s.c.preload k with mem := put (s.c.preload k).mem k v } with h | ⟨hb, c', h⟩ <;> rw [h]
        · exact Or.inl rfl
        · exact Or.inr ⟨hb, c', v, rfl, rfl⟩

/-- **every operation over every archive is M3's operation, or it raises the archive's exception - and then the
archive does refuse some value** -/
theorem stepF_cases (r : Refuse V) (cfg : Cfg) (s : St K V) (op : Op K V) :
    stepF r cfg s op = step cfg s op ∨ (r.Bad ∧ ∃ n, (stepF r cfg s op).2 = .raised r.exc n) := by
  cases op with
  | call ci =>
    show callF r cfg s ci = call cfg s ci ∨ (r.Bad ∧ ∃ n, (callF r cfg s ci).2 = .raised r.exc n)
    unfold callF call
    by_cases hno : cfg.algo = .no
    · rw [if_pos hno, if_pos hno]
      exact (callNoF_cases r cfg s ci).imp id fun ⟨hb, c, v, h, _⟩ => ⟨hb, 1, by rw [h]⟩
    · rw [if_neg hno, if_neg hno]
      exact callCachedF_cases r cfg s ci
  | dump ks =>
    dsimp only [stepF, step]
    rcases dumpKeysF_cases r s.c ks with h | ⟨ks', h, hb⟩ <;> rw [h]
    · exact Or.inl rfl
    · exact Or.inr ⟨hb, 0, rfl⟩
  | dumpAll =>
    dsimp only [stepF, step]
    rcases dumpAllF_cases r s.c with h | ⟨c', h, hb, _⟩ <;> rw [h]
    · exact Or.inl rfl
    · exact Or.inr ⟨hb, 0, rfl⟩
  | _ => exact Or.inl rfl

/-- **an archive that refuses nothing: M3F is M3**, operation by operation -/
theorem stepF_eq_step (r : Refuse V) (hr : ∀ v, r.bad v = false) (cfg : Cfg) (s : St K V) (op : Op K V) :
    stepF r cfg s op = step cfg s op :=
  (stepF_cases r cfg s op).elim id fun ⟨hb, _⟩ => hb.elim hr

/-- **a history over any archive is M3's history, unless one of its operations raised the archive's exception** -/
theorem runF_cases (r : Refuse V) (cfg : Cfg) (s : St K V) (ops : List (Op K V)) :
    runF r cfg s ops = run cfg s ops ∨ (r.Bad ∧ ∃ n, .raised r.exc n ∈ (runF r cfg s ops).2) := by
  induction ops generalizing s with
  | nil => exact Or.inl rfl
  | cons op ops ih =>
    dsimp only [runF, run]
    rcases stepF_cases r cfg s op with h | ⟨hb, n, h⟩
    · rw [h]
      rcases ih (step cfg s op).1 with h' | ⟨hb, n, h'⟩
      · rw [h']; exact Or.inl rfl
      · exact Or.inr ⟨hb, n, List.mem_cons_of_mem _ h'⟩
    · exact Or.inr ⟨hb, n, by rw [h]; exact List.mem_cons_self⟩

/-- ... and history by history: every theorem about `run` is a theorem about `runF` there -/
theorem runF_eq_run (r : Refuse V) (hr : ∀ v, r.bad v = false) (cfg : Cfg) (s : St K V) (ops : List (Op K V)) :
    runF r cfg s ops = run cfg s ops :=
  (runF_cases r cfg s ops).elim id fun ⟨hb, _⟩ => hb.elim hr

end Klepto
