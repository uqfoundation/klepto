import Klepto.Props.C09
import Klepto.Lemmas.MapKV
/-!
# C09 under a tolerance: rounding happens before the defaults are mixed in

The wrappers compute `key = keymap(*_keygen(f, ignore, *rounded_args(*args, **kwds)))`: the *call's*
arguments are rounded, then `_keygen` mixes in the function's defaults - unrounded.  So "a default
spelled out or omitted" keeps its promise exactly when rounding leaves the default values alone
(`C09_flat_rounded`); a default that rounding would change gives `f(1)` and `f(1, 2.5)` different
keys (`C09_tol_default_witness`, finding F39, replayed by suite `round`).
-/
namespace Klepto.C09
open Klepto.AMap Klepto.Keys

variable {Val : Type}

/-- values mapped, names kept: `mapKV id g`, definitionally, so the `mapKV` lemmas of `Lemmas/MapKV.lean` apply as they stand -/
def mapVals (g : Val → Val) (m : List (Val × Val)) : List (Val × Val) := m.map (fun p => (p.1, g p.2))

/-- `rounded_args(*args, **kwds)` seen from the key: every argument value goes through `g` -/
def roundCall (g : Val → Val) (c : PCall Val) : PCall Val :=
  { c with args := c.args.map g, kwds := mapVals g c.kwds }

def mapBinding (g : Val → Val) (b : Binding Val) : Binding Val :=
  { named := mapVals g b.named, extraPos := b.extraPos.map g, extraKw := mapVals g b.extraKw }

theorem keys_mapVals (g : Val → Val) (m : List (Val × Val)) : keys (mapVals g m) = keys m := by
  simp [keys, mapVals, List.map_map, Function.comp_def]

theorem nodup_roundCall (g : Val → Val) (c : PCall Val) (h : (keys c.kwds).Nodup) : (keys (roundCall g c).kwds).Nodup :=
  (keys_mapVals g c.kwds).symm ▸ h

theorem filter_mapVals (g : Val → Val) (q : Val → Bool) (m : List (Val × Val)) :
    (mapVals g m).filter (fun p => q p.1) = mapVals g (m.filter (fun p => q p.1)) := by
  rw [mapVals, mapVals, List.filter_map]; rfl

def FixesDefaults (g : Val → Val) (ps : List (Param Val)) : Prop := ∀ p ∈ ps, ∀ d, p.dflt = some d → g d = d

variable [DecidableEq Val]

theorem get?_mapVals (g : Val → Val) (m : List (Val × Val)) (n : Val) :
    get? (mapVals g m) n = (get? m n).map g :=
  get?_mapKV (φ := id) (fun _ _ h => h) m n

theorem pick_mapVals (g : Val → Val) (kw : List (Val × Val)) (ps : List (Param Val)) (h : FixesDefaults g ps) :
    pick (kwOrDflt (mapVals g kw)) ps = mapVals g (pick (kwOrDflt kw) ps) := by
  induction ps with
  | nil => rfl
  | cons p ps ih =>
    have hp : kwOrDflt (mapVals g kw) p = (kwOrDflt kw p).map g := by
      rw [kwOrDflt, kwOrDflt, get?_mapVals, Option.map_or]
      cases hd : p.dflt with
      | none => rfl
      | some d => rw [Option.map_some, h p List.mem_cons_self d hd]
    have ih := ih fun q hq => h q (List.mem_cons_of_mem _ hq)
    simp only [pick, List.filterMap_cons, hp] at ih ⊢
    cases kwOrDflt kw p with
    | none => exact ih
    | some v => exact congrArg _ ih

theorem bindPlain_map (g : Val → Val) (f : Func Val) (args : List Val) (kwds : List (Val × Val))
    (hp : FixesDefaults g f.pos) (hk : FixesDefaults g f.kwonly) :
    bindPlain f (args.map g) (mapVals g kwds) = (bindPlain f args kwds).map (mapBinding g) := by
  have hfix : FixesDefaults g (f.pos.drop args.length ++ f.kwonly) := fun p hm =>
    (List.mem_append.mp hm).elim (fun h => hp p (List.mem_of_mem_drop h)) (hk p)
  -- the call is accepted under the same conditions (they look at the keywords' names only); what is bound is mapped
  -- part by part
  rw [bindPlain_eq, bindPlain_eq, apply_ite (Option.map (mapBinding g))]
  simp only [List.length_map, keys_mapVals, Option.map_some, Option.map_none, mapBinding, pick_mapVals g kwds _ hfix,
    filter_mapVals g (isExtra f), List.map_drop]
  simp only [mapVals, List.map_append, List.zip_map_right]
  rfl

/-- binding of a plain function commutes with rounding the call -/
theorem bind_roundCall (g : Val → Val) (self : Val) (f : Func Val) (c : PCall Val) (b : Binding Val)
    (hpl : Plain f) (hfp : FixesDefaults g f.pos) (hfk : FixesDefaults g f.kwonly)
    (hb : bind self f c = some b) : bind self f (roundCall g c) = some (mapBinding g b) := by
  obtain ⟨h1, h2, h3⟩ := hpl
  unfold Keys.bind at hb ⊢
  simp only [h1, h2, h3, Bool.false_eq_true, if_false, List.nil_append, roundCall] at hb ⊢
  rw [show update [] (mapVals g c.kwds) = mapVals g (update [] c.kwds) from
    update_mapKV (φ := id) (fun _ _ h => h) [] c.kwds, bindPlain_map g f c.args _ hfp hfk, hb]
  rfl

/-- calls whose bindings become equal when every bound value is rounded get one key -/
theorem flat_of_mapBinding_eq (g : Val → Val) (k : Consts Val) (self : Val) (f : Func Val) (c₁ c₂ : PCall Val) (b₁ b₂ : Binding Val)
    (km : KM Val) (le : Val → Val → Bool) (tyOf : Val → Val) (fast : Val → Bool)
    (hpl : Plain f) (hwf : (names f.pos ++ names f.kwonly).Nodup) (hle : TotalOrder le)
    (hk₁ : (keys c₁.kwds).Nodup) (hk₂ : (keys c₂.kwds).Nodup)
    (hfp : FixesDefaults g f.pos) (hfk : FixesDefaults g f.kwonly)
    (hb₁ : bind self f c₁ = some b₁) (hb₂ : bind self f c₂ = some b₂) (hround : mapBinding g b₁ = mapBinding g b₂) :
    encodeFlat km le tyOf fast (keygen k f [] (roundCall g c₁)).1 (keygen k f [] (roundCall g c₁)).2 =
    encodeFlat km le tyOf fast (keygen k f [] (roundCall g c₂)).1 (keygen k f [] (roundCall g c₂)).2 :=
  C09_flat k self f _ _ (mapBinding g b₂) km le tyOf fast hpl hwf hle (nodup_roundCall g c₁ hk₁) (nodup_roundCall g c₂ hk₂)
    (hround ▸ bind_roundCall g self f c₁ b₁ hpl hfp hfk hb₁) (bind_roundCall g self f c₂ b₂ hpl hfp hfk hb₂)

/-- **C09 under a tolerance** (flat keymaps): if rounding leaves the function's default values alone,
two identically bound calls get one key also when their arguments are rounded first. -/
theorem C09_flat_rounded (g : Val → Val) (k : Consts Val) (self : Val) (f : Func Val) (c₁ c₂ : PCall Val) (b : Binding Val)
    (km : KM Val) (le : Val → Val → Bool) (tyOf : Val → Val) (fast : Val → Bool)
    (hpl : Plain f) (hwf : (names f.pos ++ names f.kwonly).Nodup) (hle : TotalOrder le)
    (hk₁ : (keys c₁.kwds).Nodup) (hk₂ : (keys c₂.kwds).Nodup)
    (hfp : FixesDefaults g f.pos) (hfk : FixesDefaults g f.kwonly)
    (hb₁ : bind self f c₁ = some b) (hb₂ : bind self f c₂ = some b) :
    encodeFlat km le tyOf fast (keygen k f [] (roundCall g c₁)).1 (keygen k f [] (roundCall g c₁)).2 =
    encodeFlat km le tyOf fast (keygen k f [] (roundCall g c₂)).1 (keygen k f [] (roundCall g c₂)).2 :=
  flat_of_mapBinding_eq g k self f c₁ c₂ b b km le tyOf fast hpl hwf hle hk₁ hk₂ hfp hfk hb₁ hb₂ rfl

/-- rounding to 0 decimals on a toy universe: 25 (think 2.5) becomes 20, everything else stays -/
def g0 : Nat → Nat := fun v => if v = 25 then 20 else v
/-- `def f(x, y=2.5)` with names x = 10, y = 11 -/
def fdef : Func Nat := { pos := [⟨10, none⟩, ⟨11, some 25⟩], varargs := false, kwonly := [], varkw := false }

/-- `f(1)` and `f(1, 2.5)` bind the same values, but the explicit 2.5 is rounded and the default is not:
the keys differ and the second call is recomputed (finding F39) -/
theorem C09_tol_default_witness :
    bind 99 fdef { args := [1] , kwds := [] } = bind 99 fdef { args := [1, 25], kwds := [] } ∧
    keygen K0 fdef [] (roundCall g0 { args := [1], kwds := [] }) ≠
    keygen K0 fdef [] (roundCall g0 { args := [1, 25], kwds := [] }) := by
  decide

/-- non-vacuity of `C09_flat_rounded`: a rounding that fixes the default of `fdef` -/
example : FixesDefaults (fun v : Nat => if v = 33 then 30 else v) fdef.pos := by
  intro p hp d hd
  simp [fdef] at hp
  rcases hp with rfl | rfl
  · simp at hd
  · simp at hd; subst hd; decide

end Klepto.C09
