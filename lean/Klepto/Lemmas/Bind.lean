import Klepto.Model.Keys
import Klepto.Lemmas.AMap
/-! What CPython's binding (`bindKwOnly`, `bindPos`, `bindPlain`: the specification side of C09-C11, C19) computes, in
closed form: each is one `if`, the conditions under which the call is accepted and what is then bound (`bindPlain_eq`);
`bind` of a plain function is `bindPlain` (`bind_plain`).  `bindPlain_def` serves the one argument that peels a parameter
off the signature (`C19.bindPlain_cons`, for bound methods). -/
namespace Klepto.Keys
open Klepto.AMap
variable {Val : Type}

theorem filter_true {α : Type} (l : List α) : l.filter (fun _ => true) = l :=
  List.filter_eq_self.mpr fun _ _ => rfl

theorem names_append (ps qs : List (Param Val)) : names (ps ++ qs) = names ps ++ names qs := List.map_append

/-- the dict `{p.name: v for p in ps if val(p) = some v}`; `defaultsOf` and what binding gives the parameters that no
positional argument reaches have this form -/
def pick (val : Param Val → Option Val) (ps : List (Param Val)) : List (Val × Val) :=
  ps.filterMap fun p => (val p).map (p.name, ·)

theorem defaultsOf_eq_pick (ps : List (Param Val)) : defaultsOf ps = pick (·.dflt) ps := rfl

theorem pick_append (val : Param Val → Option Val) (ps qs : List (Param Val)) :
    pick val (ps ++ qs) = pick val ps ++ pick val qs := List.filterMap_append

theorem keys_pick_sublist (val : Param Val → Option Val) (ps : List (Param Val)) :
    (keys (pick val ps)).Sublist (names ps) := by
  induction ps with
  | nil => exact .slnil
  | cons p ps ih =>
    simp only [pick, List.filterMap_cons, names, List.map_cons] at ih ⊢
    cases val p with
    | none => exact .cons _ ih
    | some v => exact .cons_cons _ ih

theorem keys_defaultsOf_sublist (ps : List (Param Val)) : (keys (defaultsOf ps)).Sublist (names ps) :=
  keys_pick_sublist _ ps

variable [DecidableEq Val]

theorem get?_pick_of_not_mem (val : Param Val → Option Val) (ps : List (Param Val)) (n : Val) (h : n ∉ names ps) :
    get? (pick val ps) n = none :=
  (get?_eq_none_iff _ _).mpr fun hm => h ((keys_pick_sublist val ps).subset hm)

theorem get?_pick (val : Param Val → Option Val) (ps : List (Param Val)) (hnd : (names ps).Nodup)
    (p : Param Val) (hp : p ∈ ps) : get? (pick val ps) p.name = val p := by
  induction ps with
  | nil => cases hp
  | cons q ps ih =>
    have hq := List.nodup_cons.mp hnd
    simp only [pick, List.filterMap_cons]
    rcases List.mem_cons.mp hp with rfl | hp'
    · cases val p with
      | none => exact get?_pick_of_not_mem val ps _ hq.1
      | some v => exact if_pos rfl
    · have hne : q.name ≠ p.name := fun e => hq.1 (by show q.name ∈ names ps; rw [e]; exact List.mem_map_of_mem hp')
      cases val q with
      | none => exact ih hq.2 hp'
      | some v => exact (if_neg hne).trans (ih hq.2 hp')

theorem mem_keys_defaultsOf (ps : List (Param Val)) (hnd : (names ps).Nodup) (p : Param Val) (hp : p ∈ ps) :
    p.name ∈ keys (defaultsOf ps) ↔ p.dflt.isSome = true := by
  rw [← get?_isSome_iff, defaultsOf_eq_pick, get?_pick _ ps hnd p hp]

/-- the defaults dict that `signature()` builds; with distinct names the update only appends -/
theorem update_defaultsOf (ps qs : List (Param Val)) (h : (names ps ++ names qs).Nodup) :
    update (defaultsOf ps) (defaultsOf qs) = defaultsOf (ps ++ qs) := by
  rw [defaultsOf_eq_pick (ps ++ qs), pick_append]
  refine update_append _ _ (List.Sublist.nodup ?_ h)
  rw [keys, List.map_append]
  exact (keys_defaultsOf_sublist ps).append (keys_defaultsOf_sublist qs)

/-- the value a parameter gets when no positional argument reaches it: its keyword, else its default -/
def kwOrDflt (kw : List (Val × Val)) (p : Param Val) : Option Val := (get? kw p.name).or p.dflt

theorem kwOrDflt_isSome (kw : List (Val × Val)) (p : Param Val) :
    (kwOrDflt kw p).isSome = true ↔ p.name ∈ keys kw ∨ p.dflt.isSome = true := by
  rw [← get?_isSome_iff, kwOrDflt]; cases get? kw p.name <;> simp

theorem bindKwOnly_eq (kw : List (Val × Val)) (ps : List (Param Val)) :
    bindKwOnly kw ps =
      if ∀ p ∈ ps, (kwOrDflt kw p).isSome = true then some (pick (kwOrDflt kw) ps) else none := by
  induction ps with
  | nil => rfl
  | cons p ps ih =>
    have hstep : bindKwOnly kw (p :: ps) =
        (kwOrDflt kw p).bind fun v => (bindKwOnly kw ps).map ((p.name, v) :: ·) := by
      simp only [bindKwOnly, kwOrDflt]
      cases get? kw p.name with
      | some v => rfl
      | none => cases p.dflt <;> rfl
    rw [hstep, ih]
    simp only [List.forall_mem_cons, pick, List.filterMap_cons]
    cases kwOrDflt kw p with
    | none => rfl
    | some v =>
      simp only [Option.bind_some, Option.isSome_some, true_and, Option.map_some]
      exact apply_ite (Option.map _) _ _ _

theorem bindPos_nil (kw : List (Val × Val)) (ps : List (Param Val)) : bindPos kw ps [] = bindKwOnly kw ps := by
  induction ps with
  | nil => rfl
  | cons p ps ih => simp only [bindPos, bindKwOnly, ih]

theorem bindPos_eq (kw : List (Val × Val)) (ps : List (Param Val)) (args : List Val) :
    bindPos kw ps args =
      if (∀ p ∈ ps.take args.length, p.name ∉ keys kw) ∧ ∀ p ∈ ps.drop args.length, (kwOrDflt kw p).isSome = true
      then some ((names ps).zip args ++ pick (kwOrDflt kw) (ps.drop args.length)) else none := by
  induction ps generalizing args with
  | nil => cases args <;> rfl
  | cons p ps ih =>
    cases args with
    | nil =>
      rw [bindPos_nil, bindKwOnly_eq]
      simp only [List.length_nil, List.take_zero, List.drop_zero, List.not_mem_nil, false_imp_iff, implies_true, true_and,
        List.zip_nil_right, List.nil_append]
    | cons a as =>
      simp only [bindPos, ih, List.length_cons, List.take_succ_cons, List.drop_succ_cons, List.forall_mem_cons, names,
        List.map_cons, List.zip_cons_cons, List.cons_append, ← get?_eq_none_iff]
      cases get? kw p.name with
      | some v => simp only [reduceCtorEq, false_and, if_false]
      | none =>
        simp only [true_and]
        exact apply_ite (Option.map _) _ _ _

theorem isExtra_eq_false (f : Func Val) (n : Val) : isExtra f n = false ↔ n ∈ names f.pos ++ names f.kwonly := by
  simp only [isExtra, Bool.and_eq_false_iff, Bool.not_eq_false', List.contains_eq_mem, decide_eq_true_eq, List.mem_append]

theorem bindPlain_def (f : Func Val) (args : List Val) (kw : List (Val × Val)) :
    bindPlain f args kw =
      if (args.length ≤ f.pos.length ∨ f.varargs = true) ∧ ((kw.filter fun p => isExtra f p.1) = [] ∨ f.varkw = true) then
        (bindPos kw f.pos args).bind fun a => (bindKwOnly kw f.kwonly).map fun k =>
          { named := a ++ k, extraPos := args.drop f.pos.length, extraKw := kw.filter fun p => isExtra f p.1 }
      else none := by
  have c1 : (args.length > f.pos.length ∧ ¬ f.varargs = true) ↔ ¬ (args.length ≤ f.pos.length ∨ f.varargs = true) := by
    rw [not_or, Nat.not_le]
  have c2 : ((kw.filter fun p => isExtra f p.1) ≠ [] ∧ ¬ f.varkw = true) ↔
      ¬ ((kw.filter fun p => isExtra f p.1) = [] ∨ f.varkw = true) := by rw [not_or]
  unfold bindPlain
  by_cases h1 : args.length ≤ f.pos.length ∨ f.varargs = true
  · rw [if_neg fun x => c1.mp x h1]
    by_cases h2 : (kw.filter fun p => isExtra f p.1) = [] ∨ f.varkw = true
    · rw [if_neg fun x => c2.mp x h2, if_pos ⟨h1, h2⟩]
      cases bindPos kw f.pos args <;> cases bindKwOnly kw f.kwonly <;> rfl
    · rw [if_pos (c2.mpr h2), if_neg fun h => h2 h.2]
  · rw [if_pos (c1.mpr h1), if_neg fun h => h1 h.1]

theorem bindPlain_eq (f : Func Val) (args : List Val) (kw : List (Val × Val)) :
    bindPlain f args kw =
      if (args.length ≤ f.pos.length ∨ f.varargs = true) ∧
         ((∀ n ∈ keys kw, isExtra f n = false) ∨ f.varkw = true) ∧
         (∀ p ∈ f.pos.take args.length, p.name ∉ keys kw) ∧
         (∀ p ∈ f.pos.drop args.length ++ f.kwonly, p.name ∈ keys kw ∨ p.dflt.isSome = true)
      then some { named := (names f.pos).zip args ++ pick (kwOrDflt kw) (f.pos.drop args.length ++ f.kwonly),
                  extraPos := args.drop f.pos.length, extraKw := kw.filter fun p => isExtra f p.1 }
      else none := by
  have hx : (kw.filter fun p => isExtra f p.1) = [] ↔ ∀ n ∈ keys kw, isExtra f n = false := by
    rw [List.filter_eq_nil_iff, keys, List.forall_mem_map]; simp only [Bool.not_eq_true]
  -- both sides are `some b` under the same conditions: the `∃` that `bind` and `map` leave are eliminated by `simp`
  refine Option.ext fun b => ?_
  simp only [bindPlain_def, bindPos_eq, bindKwOnly_eq, hx, ← kwOrDflt_isSome, List.forall_mem_append, pick_append,
    ← List.append_assoc, Option.ite_none_right_eq_some, Option.bind_eq_some_iff, Option.map_eq_some_iff,
    Option.some.injEq, and_assoc, exists_and_left, exists_eq_left']

/-- a plain Python function: not a partial, not a bound method -/
def Plain (f : Func Val) : Prop := f.pArgs = [] ∧ f.pKwds = [] ∧ f.bound = false

theorem bind_plain (self : Val) (f : Func Val) (c : PCall Val) (hpl : Plain f) (hk : (keys c.kwds).Nodup) :
    bind self f c = bindPlain f c.args c.kwds := by
  obtain ⟨h1, h2, h3⟩ := hpl
  simp only [bind, h1, h2, h3, Bool.false_eq_true, if_false, List.nil_append, update_nil_left c.kwds hk]

theorem extraPos_nil (self : Val) (f : Func Val) (c : PCall Val) (b : Binding Val)
    (hpl : Plain f) (hva : f.varargs = false) (hk : (keys c.kwds).Nodup) (hb : bind self f c = some b) : b.extraPos = [] := by
  rw [bind_plain self f c hpl hk, bindPlain_eq, Option.ite_none_right_eq_some, Option.some.injEq] at hb
  obtain ⟨⟨hlen, -⟩, rfl⟩ := hb
  exact List.drop_eq_nil_of_le (hlen.resolve_right (by simp [hva]))

end Klepto.Keys
