import Klepto.Props.Refuse
import Klepto.Props.C07
/-!
# C07 (and the limit of C05) when the archive refuses a write-back

C07 says "every entry that leaves the in-memory cache through eviction or purge is present in the archive with
the same value **before it is dropped**".  The theorems of `Props/C07.lean` are about M3, where a write-back
cannot fail.  Here they are proved of M3F (`Model/WrapperFail.lean`): for every archive - whatever it refuses,
all-or-nothing or item-by-item bulk writes - for all five caching algorithms, purge or not, `safe` or not, and
whether the call returns, raises `IndexError` (F2) or raises the archive's exception out of the eviction; then for
whole histories of calls, dumps, loads and lookups (`C07_refused_history_quiet`).  `no_cache` is outside: over a
refusing archive it does lose a result (`C07_refused_no_cache_loses`, the root is F26).
-/
namespace Klepto.C07
open AMap
variable {K V : Type} [DecidableEq K]

theorem traffic_callCachedF (r : Refuse V) (cfg : Cfg) (s : St K V) (ci : CallIn K V) (hn : (keys s.c.mem).Nodup) :
    Traffic s.c (callCachedF r cfg s ci).1.c := by
  obtain ⟨c2, hc2, h⟩ := callCachedF_rel r cfg s ci hn
  exact ⟨c2, hc2.imp id fun ⟨k, v, _, hins⟩ => ⟨k, v, hins⟩, h⟩

/-- **leaving memory means being in the archive - also when the archive refuses**: an entry resident before
the call and not resident after it is in the archive with the same value; in particular the victim of a
refused write-back has NOT left memory -/
theorem C07_refused_leaving_is_archived (r : Refuse V) (cfg : Cfg) (s : St K V) (ci : CallIn K V)
    (hn : (keys s.c.mem).Nodup) (ha : s.c.archived = true) (j : K) (w : V)
    (hb : get? s.c.mem j = some w) (hl : get? (callCachedF r cfg s ci).1.c.mem j = none) :
    (callCachedF r cfg s ci).1.c.aget j = some w :=
  (traffic_callCachedF r cfg s ci hn).leaving_is_archived ha j w hb hl

/-- **no archived entry changes or disappears**, refused write-backs and half-done bulk writes included -/
theorem C07_refused_archive_stable (r : Refuse V) (cfg : Cfg) (s : St K V) (ci : CallIn K V)
    (hn : (keys s.c.mem).Nodup) (hag : Agree s.c) (j : K) (w : V) (hb : s.c.aget j = some w) :
    (callCachedF r cfg s ci).1.c.aget j = some w :=
  (traffic_callCachedF r cfg s ci hn).archive_stable hag j w hb

/-- **everything retrievable stays retrievable** through a call, refused or not -/
theorem C07_refused_retained (r : Refuse V) (cfg : Cfg) (s : St K V) (ci : CallIn K V)
    (hn : (keys s.c.mem).Nodup) (ha : s.c.archived = true) (hag : Agree s.c) (j : K) (w : V)
    (hb : retr s.c j = some w) : retr (callCachedF r cfg s ci).1.c j = some w :=
  (traffic_callCachedF r cfg s ci hn).retained ha j w hb

section Examples
def r99 : Refuse Nat := { bad := fun v => v == 99, bulkAtomic := false, exc := .typeError }
def lruF : Cfg := { algo := .lru, safe := false, maxsize := 1, purge := false }
def mkF (k v : Nat) : CallIn Nat Nat := { key := .ok k, fn := .ok v, victim := none }
def cF : Cache Nat Nat := { mem := [], arch := some [], swap := none }
/-- the hypotheses are met, and the refused branch is reached: `f(2)` has to evict the entry of `f(1)`, whose
value the archive refuses - the call raises, and the victim is still resident -/
example : Sound cF := ⟨by decide, rfl, fun j w w' h => by simp [cF, get?] at h⟩
example : (runF r99 lruF (St.init cF) [.call (mkF 1 99), .call (mkF 2 20)]).2
    = [.ret 99 1, .raised .typeError 1] := by decide
example : get? (runF r99 lruF (St.init cF) [.call (mkF 1 99), .call (mkF 2 20)]).1.c.mem 1 = some 99 := by decide
end Examples

end Klepto.C07

namespace Klepto.C05
open C07
/-- **the bound of C05 does not survive a refused write-back** (finding F57): the entry of the call is stored
before the `# purge cache` block runs and the victim cannot leave, so a cache within its bound ends above it -/
theorem C05_refused_overfull :
    (runF r99 lruF (St.init cF) [.call (mkF 1 99), .call (mkF 2 20)]).1.c.mem.length = 2 ∧ lruF.maxsize = 1 := by
  decide

/-- ... and that is the ONLY way: a call that does not raise the archive's exception is M3's call, for which
`C05_step` holds -/
theorem C05_refused_only {K V : Type} [DecidableEq K]
    (r : Refuse V) (cfg : Cfg) (s : St K V) (ci : CallIn K V)
    (h : ¬ ∃ n, (callCachedF r cfg s ci).2 = .raised r.exc n) :
    callCachedF r cfg s ci = callCached cfg s ci :=
  (callCachedF_eq_or_refused r cfg s ci).resolve_right h
end Klepto.C05

namespace Klepto.C07
variable {K V : Type} [DecidableEq K]

/-- `C02.Quiet` without `loadAll`, which needs `ArchNodup`: the histories here carry `Sound` alone -/
def QuietF : Op K V → Bool
  | .call _ => true | .load _ => true | .dump _ => true | .dumpAll => true
  | .lookup _ => true | .info => true | .archivedQ => true
  | _ => false

theorem keeps_stepF (r : Refuse V) (cfg : Cfg) (hno : cfg.algo ≠ .no) (s : St K V) (op : Op K V)
    (hq : QuietF op = true) (h : Sound s.c) : Keeps s.c (stepF r cfg s op).1.c := by
  cases op with
  | call ci =>
    show Keeps s.c (callF r cfg s ci).1.c
    unfold callF
    rw [if_neg hno]
    exact (traffic_callCachedF r cfg s ci h.nodup).keeps h
  | load ks => exact keeps_of_loaded h (loadRel_loadKeys s.c ks)
  | dump ks =>
    dsimp only [stepF]
    rcases dumpKeysF_cases r s.c ks with hd | ⟨ks', hd, _⟩ <;> rw [hd] <;>
      exact keeps_of_copied h (dumpKeys_mem s.c _) (moveRel_dumpKeys s.c _)
  | dumpAll =>
    dsimp only [stepF]
    rcases dumpAllF_cases r s.c with hd | ⟨c', hd, _, hm, hmv⟩ <;> rw [hd]
    · exact keeps_of_copied h (dumpAll_mem s.c) (moveRel_dumpAll s.c h.nodup)
    · exact keeps_of_copied h hm (hmv h.nodup).rel
  | lookup key => exact (step_lookup_fst cfg s key).symm ▸ Keeps.refl h
  | info | archivedQ => exact Keeps.refl h
  | _ => cases hq

/-- **nothing retrievable is ever lost over a history of calls, dumps, loads and lookups on an archive that
refuses values** - whichever operations ended in the archive's exception -/
theorem C07_refused_history_quiet (r : Refuse V) (cfg : Cfg) (hno : cfg.algo ≠ .no) (ops : List (Op K V))
    (s : St K V) (hq : ∀ op ∈ ops, QuietF op = true) (h : Sound s.c) :
    Sound (runF r cfg s ops).1.c ∧ ∀ j w, retr s.c j = some w → retr (runF r cfg s ops).1.c j = some w := by
  induction ops generalizing s with
  | nil => exact Keeps.refl h
  | cons op ops ih =>
    have h1 := keeps_stepF r cfg hno s op (hq op (by simp)) h
    have h2 := ih (stepF r cfg s op).1 (fun o ho => hq o (by simp [ho])) h1.1
    dsimp only [runF]
    exact h1.trans h2

/-- **whole histories of calls over an archive that refuses values**: whatever was retrievable at any moment
is retrievable, with the same value, at every later moment - however many write-backs were refused on the way,
and whichever calls ended in an exception -/
theorem C07_refused_history (r : Refuse V) (cfg : Cfg) (hno : cfg.algo ≠ .no) (cis : List (CallIn K V))
    (s : St K V) (h : Sound s.c) :
    Sound (runF r cfg s (cis.map .call)).1.c ∧
      ∀ j w, retr s.c j = some w → retr (runF r cfg s (cis.map .call)).1.c j = some w :=
  C07_refused_history_quiet r cfg hno _ s (fun op hop => by obtain ⟨ci, _, rfl⟩ := List.mem_map.mp hop; rfl) h

def noF : Cfg := { algo := .no, safe := false, maxsize := 0, purge := true }
/-- finding F26b in the model: `no_cache` over a refusing archive.  `f(1)` returns a value the archive refuses:
the dump raises and the entry stays in memory; `f(2)` is evaluated and stored, the dump is refused again; a second
`f(2)` finds its key in memory, returns it - and clears the memory cache without dumping: the result of `f(2)`
is now neither in memory nor in the archive (the root is F26: the found-in-memory path of `no_cache`) -/
theorem C07_refused_no_cache_loses :
    (runF r99 noF (St.init cF) [.call (mkF 1 99), .call (mkF 2 20), .call (mkF 2 20)]).2
      = [.raised .typeError 1, .raised .typeError 1, .ret 20 0] ∧
    retr (runF r99 noF (St.init cF) [.call (mkF 1 99), .call (mkF 2 20)]).1.c 2 = some 20 ∧
    retr (runF r99 noF (St.init cF) [.call (mkF 1 99), .call (mkF 2 20), .call (mkF 2 20)]).1.c 2 = none := by
  decide
end Klepto.C07
