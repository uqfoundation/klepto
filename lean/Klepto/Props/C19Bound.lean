import Klepto.Props.C19
/-!
# C19 for bound methods and callable instances

`C19_plain_kwonly` covers plain functions.  A bound method `obj.m` of `def m(self, a, b=…, *args, **kw)`
and a callable instance (`signature()` continues with its bound `__call__`) are the same function with the
instance already supplied: `validate` drops the instance parameter from the names, and - since the repair
of F43 - rejects a keyword that names it.  Both sides are reduced to the plain case (`validate_bound`, `bind_bound`).
-/
namespace Klepto.C19
open Klepto.AMap Klepto.Keys

variable {Val : Type}

/-- the underlying plain function: the same parameters without the instance -/
def unbind (f : Func Val) : Func Val := { f with pos := f.pos.drop 1, bound := false }

/-- a bound method / callable instance, not wrapped in a partial, whose instance parameter `p0` has no default -/
structure BoundShape (f : Func Val) (p0 : Param Val) (ps : List (Param Val)) : Prop where
  pos : f.pos = p0 :: ps
  nodflt : p0.dflt = none
  bound : f.bound = true
  pa : f.pArgs = []
  pk : f.pKwds = []
  po : f.nposonly = 0

theorem BoundShape.plain_unbind {f : Func Val} {p0 : Param Val} {ps : List (Param Val)} (h : BoundShape f p0 ps) :
    Plain (unbind f) := ⟨h.pa, h.pk, rfl⟩

theorem BoundShape.nodup_unbind {f : Func Val} {p0 : Param Val} {ps : List (Param Val)} (h : BoundShape f p0 ps)
    (hwf : (names f.pos ++ names f.kwonly).Nodup) : (names (unbind f).pos ++ names (unbind f).kwonly).Nodup := by
  have : names (unbind f).pos ++ names (unbind f).kwonly = (names f.pos ++ names f.kwonly).drop 1 := by
    simp [unbind, names, h.pos]
  rw [this]
  exact (List.drop_sublist 1 _).nodup hwf

variable [DecidableEq Val]

theorem sigMarked_bound (f : Func Val) (p0 : Param Val) (ps : List (Param Val)) (h : BoundShape f p0 ps) :
    sigMarked f = sigMarked (unbind f) := by
  obtain ⟨hpos, hnd, hb, hpa, hpk, -⟩ := h
  have hd : defaultsOf (p0 :: ps) = defaultsOf ps := by simp [defaultsOf, hnd]
  simp only [sigMarked, unbind, hpos, hb, hpa, hpk, names, List.map_cons, List.drop_succ_cons, List.drop_zero,
    List.zip_nil_right, List.any_nil, Bool.false_eq_true, if_false, if_true, hd, has, get?, Option.isSome_none,
    Bool.not_false, filter_true]

theorem validate_bound (f : Func Val) (p0 : Param Val) (ps : List (Param Val)) (c : PCall Val) (h : BoundShape f p0 ps) :
    validate f c = (validate (unbind f) c && !(keys c.kwds).contains p0.name) := by
  unfold validate
  rw [sigMarked_bound f p0 ps h]
  cases sigMarked (unbind f) with
  | none => rfl
  | some t =>
    -- the same ten checks, except that the instance parameter must not be a keyword
    obtain ⟨hpos, -, hb, -, hpk, hpo⟩ := h
    simp only [vchecks, VChecks.all, unbind, hpos, hb, hpk, hpo, names, List.map_cons, List.drop_succ_cons, List.drop_zero,
      if_true, Bool.false_eq_true, if_false, List.head?_cons, keys, List.map_nil, List.contains_nil, Bool.or_false,
      Bool.true_and, Bool.false_and, Bool.not_false, Bool.and_true, beq_self_eq_true]
    exact Bool.and_right_comm ..

theorem bindPlain_cons (f : Func Val) (p0 : Param Val) (ps : List (Param Val)) (hpos : f.pos = p0 :: ps)
    (a : Val) (args : List Val) (kw : List (Val × Val)) :
    bindPlain f (a :: args) kw =
      if p0.name ∈ keys kw then none
      else (bindPlain (unbind f) args kw).map fun b => { b with named := (p0.name, a) :: b.named } := by
  rw [bindPlain_def, bindPlain_def]
  by_cases hm : p0.name ∈ keys kw
  · obtain ⟨v, hv⟩ := Option.isSome_iff_exists.mp ((get?_isSome_iff _ _).mpr hm)
    simp only [hm, if_true, hpos, bindPos, hv, Option.bind_none, ite_self]
  · have hg := (get?_eq_none_iff _ _).mpr hm
    -- the instance parameter's name is no keyword of the call, so the same keywords are extra for both signatures
    have hx : (kw.filter fun p => isExtra f p.1) = kw.filter fun p => isExtra (unbind f) p.1 := by
      apply List.filter_congr
      intro q hq
      have hne : (q.1 == p0.name) = false := by
        rw [beq_eq_false_iff_ne]; intro e; exact hm (e ▸ List.mem_map_of_mem hq)
      simp only [isExtra, unbind, hpos, names, List.map_cons, List.drop_succ_cons, List.drop_zero, List.contains_cons,
        hne, Bool.false_or]
    rw [hx]
    simp only [hm, if_false, hpos, unbind, bindPos, hg, List.length_cons, List.drop_succ_cons, List.drop_zero,
      Nat.add_le_add_iff_right]
    split
    · cases bindPos kw ps args <;> cases bindKwOnly kw f.kwonly <;> rfl
    · rfl

theorem bind_eq_unbind (self : Val) (f : Func Val) (p0 : Param Val) (ps : List (Param Val)) (c : PCall Val)
    (h : BoundShape f p0 ps) (hk : (keys c.kwds).Nodup) :
    bind self f c =
      if p0.name ∈ keys c.kwds then none
      else (bind self (unbind f) c).map fun b => { b with named := (p0.name, self) :: b.named } := by
  rw [bind_plain self (unbind f) c h.plain_unbind hk, ← bindPlain_cons f p0 ps h.pos]
  simp only [Keys.bind, h.bound, h.pa, h.pk, if_true, List.append_nil, List.singleton_append, update_nil_left c.kwds hk]

/-- the specification side: supplying the instance positionally = binding the rest, provided no keyword names the instance parameter -/
theorem bind_bound (self : Val) (f : Func Val) (p0 : Param Val) (ps : List (Param Val)) (c : PCall Val)
    (h : BoundShape f p0 ps) (hk : (keys c.kwds).Nodup) :
    (bind self f c).isSome = true ↔
      ((bind self (unbind f) c).isSome = true ∧ (keys c.kwds).contains p0.name = false) := by
  rw [bind_eq_unbind self f p0 ps c h hk]
  by_cases hm : p0.name ∈ keys c.kwds <;> simp [hm]

/-- **C19 for bound methods and callable instances** (keyword-only parameters included; no positional-only ones, not
wrapped in a partial): `validate` succeeds exactly when CPython's binding succeeds. -/
theorem C19_bound_kwonly (self : Val) (f : Func Val) (p0 : Param Val) (ps : List (Param Val)) (c : PCall Val)
    (h : BoundShape f p0 ps) (hnd : (names f.pos ++ names f.kwonly).Nodup) (hk : (keys c.kwds).Nodup) :
    validate f c = true ↔ (bind self f c).isSome = true := by
  rw [validate_bound f p0 ps c h, bind_bound self f p0 ps c h hk,
    ← C19_plain_kwonly self (unbind f) c h.plain_unbind (h.nodup_unbind hnd) hk]
  cases validate (unbind f) c <;> cases (keys c.kwds).contains p0.name <;> simp

/-- **C19 for bound methods and callable instances** (no keyword-only, no positional-only parameters, not
wrapped in a partial): `validate` succeeds exactly when CPython's binding succeeds. -/
theorem C19_bound (self : Val) (f : Func Val) (p0 : Param Val) (ps : List (Param Val)) (c : PCall Val)
    (h : BoundShape f p0 ps) (hko : f.kwonly = []) (hnd : (names f.pos).Nodup) (hk : (keys c.kwds).Nodup) :
    validate f c = true ↔ (bind self f c).isSome = true :=
  C19_bound_kwonly self f p0 ps c h (by rw [hko]; simpa [names] using hnd) hk

/-- non-vacuity: `obj.m` for `def m(self, a, b=5, *args, **kw)` (names self = 9, a = 10, b = 11) -/
example : BoundShape ({ pos := [⟨9, none⟩, ⟨10, none⟩, ⟨11, some 25⟩], varargs := true, kwonly := [], varkw := true, bound := true } : Func Nat)
    ⟨9, none⟩ [⟨10, none⟩, ⟨11, some 25⟩] := ⟨rfl, rfl, rfl, rfl, rfl, rfl⟩

end Klepto.C19
