import Klepto.Props.C01
import Klepto.Props.C10
/-!
# C01 end to end: from the arguments of a call to the value the wrapper returns

`C01_call` is stated over keys: `F : K → Except Exc V` is "the function seen through the key map".
This file discharges that reading for the real key pipeline.  The user's function is
`res : Binding → Except Exc V` - its outcome depends on what CPython bound, nothing else
(`ResExt`: on the values bound to names and on the extra positionals).  For a plain function
without `*args` the flat key separates bindings (`C10_calls`), so `res` factors through the key
(`C01_key_function`), and the wrapper theorem then reads: a call with arguments `c` that CPython
binds to `b` returns `res b` - from memory, from the archive, or computed (`C01_transparent`).
-/
namespace Klepto.C01
open Klepto.AMap Klepto.Keys

variable {Val V : Type} [DecidableEq Val]

/-- the flat key of a call, as the wrappers compute it (no ignore specification) -/
def keyOf (k : Consts Val) (f : Func Val) (km : KM Val) (le : Val → Val → Bool) (tyOf : Val → Val) (fast : Val → Bool)
    (c : PCall Val) : FlatKey Val :=
  encodeFlat km le tyOf fast (keygen k f [] c).1 (keygen k f [] c).2

/-- the function's outcome depends only on what was bound -/
def ResExt (res : Binding Val → Except Exc V) : Prop :=
  ∀ b₁ b₂ : Binding Val, (∀ n, get? (b₁.named ++ b₁.extraKw) n = get? (b₂.named ++ b₂.extraKw) n) →
    b₁.extraPos = b₂.extraPos → res b₁ = res b₂

/-- a call CPython accepts, with distinct keyword names -/
def ValidCall (self : Val) (f : Func Val) (c : PCall Val) (b : Binding Val) : Prop :=
  bind self f c = some b ∧ (keys c.kwds).Nodup

/-- **equal keys, equal outcomes**: the contrapositive of C10 for a function whose outcome depends on its binding -/
theorem C01_same_key_same_result (k : Consts Val) (self : Val) (f : Func Val)
    (km : KM Val) (le : Val → Val → Bool) (tyOf : Val → Val) (fast : Val → Bool)
    (res : Binding Val → Except Exc V) (hres : ResExt res)
    (hpl : Plain f) (hwf : (names f.pos ++ names f.kwonly).Nodup) (hva : f.varargs = false)
    (c₁ c₂ : PCall Val) (b₁ b₂ : Binding Val) (h₁ : ValidCall self f c₁ b₁) (h₂ : ValidCall self f c₂ b₂)
    (hkey : keyOf k f km le tyOf fast c₁ = keyOf k f km le tyOf fast c₂) : res b₁ = res b₂ := by
  apply hres
  · intro n
    by_cases hne : get? (b₁.named ++ b₁.extraKw) n = get? (b₂.named ++ b₂.extraKw) n
    · exact hne
    · exact absurd hkey (C10.C10_calls k self f c₁ c₂ b₁ b₂ km le tyOf fast hpl hwf hva h₁.2 h₂.2 h₁.1 h₂.1 n hne)
  · rw [extraPos_nil self f c₁ b₁ hpl hva h₁.2 h₁.1, extraPos_nil self f c₂ b₂ hpl hva h₂.2 h₂.1]

/-- **the function seen through the key map exists**: `res` factors through the key of the call -/
theorem C01_key_function (k : Consts Val) (self : Val) (f : Func Val)
    (km : KM Val) (le : Val → Val → Bool) (tyOf : Val → Val) (fast : Val → Bool)
    (res : Binding Val → Except Exc V) (hres : ResExt res)
    (hpl : Plain f) (hwf : (names f.pos ++ names f.kwonly).Nodup) (hva : f.varargs = false) :
    ∃ F : FlatKey Val → Except Exc V, ∀ (c : PCall Val) (b : Binding Val), ValidCall self f c b →
      F (keyOf k f km le tyOf fast c) = res b := by
  classical
  refine ⟨fun key => if h : ∃ (c : PCall Val) (b : Binding Val), ValidCall self f c b ∧ keyOf k f km le tyOf fast c = key
                     then res (Classical.choose (Classical.choose_spec h)) else .error .keyError, ?_⟩
  intro c b hv
  have hex : ∃ (c' : PCall Val) (b' : Binding Val), ValidCall self f c' b' ∧
      keyOf k f km le tyOf fast c' = keyOf k f km le tyOf fast c := ⟨c, b, hv, rfl⟩
  simp only [hex, dite_true]
  have hs := Classical.choose_spec (Classical.choose_spec hex)
  exact C01_same_key_same_result k self f km le tyOf fast res hres hpl hwf hva _ c _ b hs.1 hv hs.2

/-- **C01, end to end (caching decorators, flat keymaps).**  There is one function `F` on keys such that,
in every state consistent with it, a call whose arguments `c` CPython binds to `b` - keyed as the wrappers
key it, evaluated (if at all) as the function evaluates - returns exactly `res b`, and the state stays consistent. -/
theorem C01_transparent (k : Consts Val) (self : Val) (f : Func Val)
    (km : KM Val) (le : Val → Val → Bool) (tyOf : Val → Val) (fast : Val → Bool)
    (res : Binding Val → Except Exc V) (hres : ResExt res)
    (hpl : Plain f) (hwf : (names f.pos ++ names f.kwonly).Nodup) (hva : f.varargs = false) :
    ∃ F : FlatKey Val → Except Exc V, ∀ (cfg : Cfg) (s : St (FlatKey Val) V) (ci : CallIn (FlatKey Val) V)
      (c : PCall Val) (b : Binding Val),
      ValidCall self f c b → (keys s.c.mem).Nodup → Consistent F s.c →
      ci.key = .ok (keyOf k f km le tyOf fast c) → ci.fn = res b →
      (callCached cfg s ci).2.isIndexError = false →
      expected (res b) (callCached cfg s ci).2 ∧ Consistent F (callCached cfg s ci).1.c := by
  obtain ⟨F, hF⟩ := C01_key_function k self f km le tyOf fast res hres hpl hwf hva
  refine ⟨F, ?_⟩
  intro cfg s ci c b hv hn hc hk hf hne
  have hFk := hF c b hv
  have := C01_call F cfg s ci (keyOf k f km le tyOf fast c) hn hc hk (by rw [hf, hFk]) hne
  rw [hFk] at this
  exact this

/-- `def f(x, y=21)` returning its `x` (names x = 10, y = 11) -/
def fxy : Func Nat := { pos := [⟨10, none⟩, ⟨11, some 21⟩], varargs := false, kwonly := [], varkw := false }
def resX : Binding Nat → Except Exc (Option Nat) := fun b => .ok (get? (b.named ++ b.extraKw) 10)

example : ResExt resX := by
  intro b₁ b₂ h _
  simp [resX, h 10]

example : Plain fxy ∧ (names fxy.pos ++ names fxy.kwonly).Nodup ∧ fxy.varargs = false ∧
    ValidCall 99 fxy { args := [20], kwds := [] } { named := [(10, 20), (11, 21)], extraPos := [], extraKw := [] } := by
  refine ⟨⟨rfl, rfl, rfl⟩, by decide, rfl, by decide, by decide⟩

example (F : FlatKey Nat → Except Exc (Option Nat)) : Consistent F ({ mem := [], arch := none, swap := none } : Cache (FlatKey Nat) (Option Nat)) :=
  ⟨fun _ _ h => by simp [get?] at h, fun _ _ h => by simp [Cache.aget] at h, fun _ _ h => by simp [sget] at h⟩

end Klepto.C01
