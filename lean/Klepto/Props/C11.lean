import Klepto.Lemmas.Keygen
/-!
# C11 — Ignored arguments never influence the key; all others still do

`_keygen` = `kSignature` → `ignPlan` (what to NULL, from the signature and the ignore
specification only) → `keygenWith` (the value-dependent part).  The theorems are about
`keygenWith` for an arbitrary plan, hence for every callable kind and every ignore specification.
`Sim S m₁ m₂` relates the two calls' keyword dicts stage by stage: same key sequence, values equal outside `S`;
`S` starts as the hidden keywords of the call and each stage removes from it what it overwrites or deletes on both
sides, until nothing is left.
-/
namespace Klepto.C11
open Klepto.Keys Klepto.AMap
set_option linter.unusedSectionVars false
variable {Val : Type} [DecidableEq Val]

structure Sim (S : Val → Prop) (m₁ m₂ : List (Val × Val)) : Prop where
  keys_eq : keys m₁ = keys m₂
  nodup : (keys m₁).Nodup
  get_eq : ∀ n, ¬ S n → get? m₁ n = get? m₂ n

theorem Sim.mono {S T : Val → Prop} {m₁ m₂ : List (Val × Val)} (h : Sim S m₁ m₂) (hst : ∀ n, S n → T n) : Sim T m₁ m₂ :=
  ⟨h.keys_eq, h.nodup, fun n hn => h.get_eq n fun hs => hn (hst n hs)⟩

theorem Sim.restrict {S : Val → Prop} {m₁ m₂ : List (Val × Val)} (h : Sim S m₁ m₂) :
    Sim (fun j => S j ∧ j ∈ keys m₁) m₁ m₂ := by
  refine ⟨h.keys_eq, h.nodup, fun n hn => ?_⟩
  by_cases hm : n ∈ keys m₁
  · exact h.get_eq n fun hs => hn ⟨hs, hm⟩
  · rw [get?_eq_none_of_not_mem _ _ hm, get?_eq_none_of_not_mem _ _ (h.keys_eq ▸ hm)]

/-- `T`: the two values written may differ (`False` where the same value is written on both sides) -/
theorem Sim.put {S : Val → Prop} {m₁ m₂ : List (Val × Val)} (h : Sim S m₁ m₂) (n v₁ v₂ : Val) (T : Prop) (hv : ¬ T → v₁ = v₂) :
    Sim (fun j => (S j ∧ j ≠ n) ∨ (j = n ∧ T)) (AMap.put m₁ n v₁) (AMap.put m₂ n v₂) := by
  have hh : has m₁ n = has m₂ n := Bool.eq_iff_iff.mpr (by rw [has_iff_mem_keys, has_iff_mem_keys, h.keys_eq])
  refine ⟨by rw [keys_put_eq, keys_put_eq, hh, h.keys_eq], nodup_keys_put _ _ _ h.nodup, fun j hj => ?_⟩
  rw [get?_put, get?_put]
  by_cases hjn : j = n
  · rw [if_pos hjn, if_pos hjn, hv fun ht => hj (Or.inr ⟨hjn, ht⟩)]
  · rw [if_neg hjn, if_neg hjn]; exact h.get_eq j fun hs => hj (Or.inl ⟨hs, hjn⟩)

theorem Sim.erase {S : Val → Prop} {m₁ m₂ : List (Val × Val)} (h : Sim S m₁ m₂) (n : Val) :
    Sim (fun j => S j ∧ j ≠ n) (AMap.erase m₁ n) (AMap.erase m₂ n) := by
  refine ⟨by rw [keys_erase_eq, keys_erase_eq, h.keys_eq], nodup_keys_erase _ _ h.nodup, fun j hj => ?_⟩
  rw [get?_erase _ _ _ h.nodup, get?_erase _ _ _ (h.keys_eq ▸ h.nodup)]
  by_cases hjn : j = n
  · rw [if_pos hjn, if_pos hjn]
  · rw [if_neg hjn, if_neg hjn]; exact h.get_eq j fun hs => hj ⟨hs, hjn⟩

/-- the items of two keyword dicts: same names in the same order, values agree outside `S` -/
def SimItems (S : Val → Prop) : List (Val × Val) → List (Val × Val) → Prop
  | [], [] => True
  | p :: ps, q :: qs => p.1 = q.1 ∧ (¬ S p.1 → p.2 = q.2) ∧ SimItems S ps qs
  | _, _ => False

theorem simItems_refl (S : Val → Prop) (l : List (Val × Val)) : SimItems S l l := by
  induction l with
  | nil => trivial
  | cons p l ih => exact ⟨rfl, fun _ => rfl, ih⟩

theorem simItems_keys (S : Val → Prop) (o₁ o₂ : List (Val × Val)) (h : SimItems S o₁ o₂) : keys o₁ = keys o₂ := by
  induction o₁ generalizing o₂ with
  | nil => cases o₂ with
    | nil => rfl
    | cons q o₂ => exact absurd h id
  | cons p o₁ ih => cases o₂ with
    | nil => exact absurd h id
    | cons q o₂ => simp only [keys, List.map_cons]; rw [h.1]; congr 1; exact ih o₂ h.2.2

theorem Sim.update {S T : Val → Prop} {m₁ m₂ o₁ o₂ : List (Val × Val)} (h : Sim S m₁ m₂) (ho : SimItems T o₁ o₂) :
    Sim (fun j => S j ∨ (T j ∧ j ∈ keys o₁)) (AMap.update m₁ o₁) (AMap.update m₂ o₂) := by
  unfold AMap.update
  induction o₁ generalizing m₁ m₂ o₂ S with
  | nil => cases o₂ with
    | nil => exact h.mono fun _ => Or.inl
    | cons q o₂ => exact absurd ho id
  | cons p o₁ ih => cases o₂ with
    | nil => exact absurd ho id
    | cons q o₂ =>
      simp only [List.foldl_cons]
      have := ih (h.put p.1 p.2 q.2 (T p.1) ho.2.1) ho.2.2
      rw [← ho.1]
      refine this.mono fun j hj => ?_
      simp only [keys, List.map_cons, List.mem_cons]
      rcases hj with (⟨hs, -⟩ | ⟨rfl, ht⟩) | ⟨ht, hm⟩
      · exact Or.inl hs
      · exact Or.inr ⟨ht, Or.inl rfl⟩
      · exact Or.inr ⟨ht, Or.inr hm⟩

theorem Sim.eq {m₁ m₂ : List (Val × Val)} (h : Sim (fun _ => False) m₁ m₂) : m₁ = m₂ := by
  obtain ⟨hk, hn, hv⟩ := h
  induction m₁ generalizing m₂ with
  | nil => cases m₂ with
    | nil => rfl
    | cons q m₂ => cases hk
  | cons p m₁ ih => cases m₂ with
    | nil => cases hk
    | cons q m₂ =>
      obtain ⟨a, b⟩ := p; obtain ⟨c, d⟩ := q
      obtain ⟨rfl, hk'⟩ : a = c ∧ keys m₁ = keys m₂ := List.cons.inj hk
      have hn' := List.nodup_cons.mp hn
      have hb : b = d := by simpa [get?] using hv a id
      subst hb
      refine congrArg _ (ih hk' hn'.2 fun n _ => ?_)
      by_cases han : a = n
      · subst han
        rw [get?_eq_none_of_not_mem m₁ a hn'.1, get?_eq_none_of_not_mem m₂ a (hk' ▸ hn'.1)]
      · simpa [get?, han] using hv n id

/-- the positional arguments agree wherever they are not NULLed or clipped -/
def AgreeFrom (p : IgnPlan Val) : Nat → List Val → List Val → Prop
  | _, [], [] => True
  | i, a :: as, b :: bs =>
    ((p.star && decide (p.explicit.length ≤ i)) = true ∨ p.idx.contains i = true ∨ a = b) ∧ AgreeFrom p (i + 1) as bs
  | _, _, _ => False

theorem maskFrom_congr (k : Consts Val) (p : IgnPlan Val) (i : Nat) (a₁ a₂ : List Val)
    (h : AgreeFrom p i a₁ a₂) : maskFrom k p i a₁ = maskFrom k p i a₂ := by
  induction a₁ generalizing i a₂ with
  | nil => cases a₂ with
    | nil => rfl
    | cons b bs => exact absurd h id
  | cons a as ih => cases a₂ with
    | nil => exact absurd h id
    | cons b bs =>
      obtain ⟨h1, h2⟩ := h
      rw [maskFrom, maskFrom, ih (i + 1) bs h2]
      rcases h1 with h1 | h1 | h1
      · rw [if_pos h1, if_pos h1]
      · rw [h1]; rfl
      · rw [h1]

/-- the names whose keyword values the plan hides: NULLed names, the removed instance, and — under
`'**'` — every keyword that is not a parameter (neither explicitly named nor keyword-only) -/
def Hidden (p : IgnPlan Val) (n : Val) : Prop :=
  n ∈ p.nms ∨ (p.selfRemoved = true ∧ p.selfName = some n) ∨ (p.dstar = true ∧ n ∉ p.explicit ++ p.keep)

theorem Sim.nullFold {S : Val → Prop} (k : Consts Val) (ns : List Val) {m₁ m₂ : List (Val × Val)} (h : Sim S m₁ m₂) :
    Sim (fun j => S j ∧ j ∉ ns) (ns.foldl (fun acc n => AMap.put acc n k.null) m₁)
      (ns.foldl (fun acc n => AMap.put acc n k.null) m₂) := by
  induction ns generalizing m₁ m₂ S with
  | nil => exact h.mono fun j hj => ⟨hj, List.not_mem_nil⟩
  | cons n ns ih =>
    refine (ih (h.put n k.null k.null False fun _ => rfl)).mono fun j hj => ?_
    rcases hj with ⟨⟨hs, hn⟩ | ⟨-, hf⟩, hns⟩
    · exact ⟨hs, fun hm => (List.mem_cons.mp hm).elim hn hns⟩
    · exact hf.elim

theorem popExtra_eq (m kw : List (Val × Val)) (ex : List Val) :
    popExtra m kw ex = (keys kw).foldl (fun acc n => if ex.contains n then acc else AMap.erase acc n) m := by
  rw [keys, List.foldl_map]; rfl

theorem Sim.popAll {S : Val → Prop} {m₁ m₂ : List (Val × Val)} (ns ex : List Val) (h : Sim S m₁ m₂) :
    Sim (fun j => S j ∧ ¬ (j ∈ ns ∧ j ∉ ex)) (ns.foldl (fun acc n => if ex.contains n then acc else AMap.erase acc n) m₁)
      (ns.foldl (fun acc n => if ex.contains n then acc else AMap.erase acc n) m₂) := by
  induction ns generalizing m₁ m₂ S with
  | nil => exact h.mono fun j hj => ⟨hj, fun hc => nomatch hc.1⟩
  | cons n ns ih =>
    simp only [List.foldl_cons]
    by_cases he : ex.contains n = true
    · simp only [he, if_true]
      refine (ih h).mono fun j hj => ⟨hj.1, fun hc => ?_⟩
      rcases List.mem_cons.mp hc.1 with rfl | hm
      · exact hc.2 (by simpa using he)
      · exact hj.2 ⟨hm, hc.2⟩
    · simp only [he, Bool.false_eq_true, if_false]
      refine (ih (h.erase n)).mono fun j hj => ⟨hj.1.1, fun hc => ?_⟩
      rcases List.mem_cons.mp hc.1 with hjn | hm
      · exact hj.1.2 hjn
      · exact hj.2 ⟨hm, hc.2⟩

/-- "if ignore self, remove self".  The `match` below is not the auxiliary matcher inside `keygenWith`, so this lemma
cannot be rewritten with there: it is applied, and the terms are then `generalize`d. -/
theorem Sim.dropSelf {S : Val → Prop} (sr : Bool) (sn : Option Val) {m₁ m₂ : List (Val × Val)} (h : Sim S m₁ m₂) :
    Sim (fun j => S j ∧ ¬ (sr = true ∧ sn = some j))
      (if sr = true then (match sn with | some n => AMap.erase m₁ n | none => m₁) else m₁)
      (if sr = true then (match sn with | some n => AMap.erase m₂ n | none => m₂) else m₂) := by
  cases sr with
  | false => exact h.mono fun j hj => ⟨hj, fun hc => nomatch hc.1⟩
  | true =>
    cases sn with
    | none => exact h.mono fun j hj => ⟨hj, fun hc => nomatch hc.2⟩
    | some n => exact (h.erase n).mono fun j hj => ⟨hj.1, fun hc => hj.2 (Option.some.inj hc.2).symm⟩

/-- **C11 — ignored arguments never influence the key.**  For *any* plan (any callable, any ignore
specification): two calls of the same shape whose positional arguments agree wherever they are not
NULLed / clipped, and whose keyword arguments agree on every name that is not hidden, produce the
*same* `_keygen` result — hence the same key under every keymap, and one cache entry. -/
theorem C11_ignored_irrelevant (k : Consts Val) (p : IgnPlan Val) (d : List (Val × Val)) (c₁ c₂ : PCall Val)
    (hd : (keys d).Nodup)
    (hargs : AgreeFrom p 0 (if p.selfRemoved then c₁.args.drop 1 else c₁.args)
                           (if p.selfRemoved then c₂.args.drop 1 else c₂.args))
    (hkw : SimItems (Hidden p) c₁.kwds c₂.kwds) :
    keygenWith k p d c₁ = keygenWith k p d c₂ := by
  unfold keygenWith
  simp only [maskArgs, popExtra_eq]
  rw [maskFrom_congr k p 0 _ _ hargs, ← simItems_keys _ _ _ hkw]
  -- the names on which the two keyword dicts may still differ: at first the hidden keywords of the call ...
  have s0 : Sim _ (update d c₁.kwds) (update d c₂.kwds) :=
    Sim.update (S := fun _ => False) ⟨rfl, hd, fun _ _ => rfl⟩ hkw
  -- ... each stage then removes from them what it overwrites or deletes on both sides
  have s1 := (s0.dropSelf p.selfRemoved p.selfName).restrict
  generalize (if p.selfRemoved = true then (match p.selfName with
    | some n => erase (update d c₁.kwds) n | none => update d c₁.kwds) else update d c₁.kwds) = u₁ at s1 ⊢
  generalize (if p.selfRemoved = true then (match p.selfName with
    | some n => erase (update d c₂.kwds) n | none => update d c₂.kwds) else update d c₂.kwds) = u₂ at s1 ⊢
  rw [← s1.keys_eq]
  have s2 := s1.nullFold k (p.nms.filter fun n => (keys u₁ ++ p.explicit).contains n)
  -- a hidden keyword of the call that is still a key, is not the removed instance and is not NULLed, is an extra
  -- keyword under `'**'`
  have hrest : ∀ j, ((((False ∨ (Hidden p j ∧ j ∈ keys c₁.kwds)) ∧ ¬ (p.selfRemoved = true ∧ p.selfName = some j)) ∧
      j ∈ keys u₁) ∧ j ∉ p.nms.filter fun n => (keys u₁ ++ p.explicit).contains n) →
      p.dstar = true ∧ j ∈ keys c₁.kwds ∧ j ∉ p.explicit ++ p.keep := by
    rintro j ⟨⟨⟨(hf | ⟨hh, hj⟩), hself⟩, hu⟩, hnull⟩
    · exact hf.elim
    · rcases hh with hn | hs | hx
      · exact absurd (List.mem_filter.mpr ⟨hn, by simpa using Or.inl hu⟩) hnull
      · exact absurd hs hself
      · exact ⟨hx.1, hj, hx.2⟩
  suffices hfull : (if p.dstar then List.foldl _ _ (keys c₁.kwds) else _) =
      (if p.dstar then List.foldl _ _ (keys c₁.kwds) else _) by rw [hfull]
  cases hds : p.dstar with
  | false => exact (s2.mono fun j hj => nomatch hds.symm.trans (hrest j hj).1).eq
  | true => exact ((s2.popAll (keys c₁.kwds) (p.explicit ++ p.keep)).mono fun j hj => hj.2 (hrest j hj.1).2).eq

/-- the same statement for `_keygen` itself: the plan depends on the call only through `selfLike` -/
theorem C11_keygen (k : Consts Val) (f : Func Val) (ign : List (Ign Val)) (c₁ c₂ : PCall Val)
    (e : List Val) (d : List (Val × Val)) (hs : kSignature f = some (e, d)) (hd : (keys d).Nodup)
    (hsl : c₁.selfLike = c₂.selfLike)
    (hargs : AgreeFrom (ignPlan k e ign c₁.selfLike (names f.kwonly)) 0
      (if (ignPlan k e ign c₁.selfLike (names f.kwonly)).selfRemoved then c₁.args.drop 1 else c₁.args)
      (if (ignPlan k e ign c₁.selfLike (names f.kwonly)).selfRemoved then c₂.args.drop 1 else c₂.args))
    (hkw : SimItems (Hidden (ignPlan k e ign c₁.selfLike (names f.kwonly))) c₁.kwds c₂.kwds) :
    keygen k f ign c₁ = keygen k f ign c₂ := by
  simp only [keygen, hs, ← hsl]
  exact C11_ignored_irrelevant k _ d c₁ c₂ hd hargs hkw

theorem maskFrom_keeps (k : Consts Val) (p : IgnPlan Val) (hs : p.star = false) (i j : Nat) (l : List Val)
    (hi : p.idx.contains (i + j) = false) : (maskFrom k p i l)[j]? = l[j]? := by
  rw [maskFrom_eq_mapIdx k p hs, List.getElem?_mapIdx, hi]; exact Option.map_id'

theorem maskFrom_length (k : Consts Val) (p : IgnPlan Val) (hs : p.star = false) (i : Nat) (l : List Val) :
    (maskFrom k p i l).length = l.length := by
  rw [maskFrom_eq_mapIdx k p hs, List.length_mapIdx]

/-- **an extra positional that is not selected stays in the key** (no `'*'`, index not listed) -/
theorem C11_extra_positional_kept (k : Consts Val) (p : IgnPlan Val) (d : List (Val × Val)) (c : PCall Val)
    (hs : p.star = false) (hsr : p.selfRemoved = false) (j : Nat)
    (hi : p.idx.contains (p.explicit.length + j) = false) :
    (keygenWith k p d c).1[j]? = c.args[p.explicit.length + j]? := by
  simp only [keygenWith, hsr, Bool.false_eq_true, if_false, maskArgs, List.getElem?_drop]
  exact maskFrom_keeps k p hs 0 _ c.args (by rwa [Nat.zero_add])

/-- **a named parameter passed positionally and not selected stays in the key with its value** -/
theorem C11_named_kept (k : Consts Val) (p : IgnPlan Val) (d : List (Val × Val)) (c : PCall Val)
    (hs : p.star = false) (hsr : p.selfRemoved = false) (hne : p.explicit.Nodup) (i : Nat) (n v : Val)
    (hn : p.explicit[i]? = some n) (ha : c.args[i]? = some v) (hi : p.idx.contains i = false) :
    get? (keygenWith k p d c).2 n = some v := by
  simp only [keygenWith, hsr, Bool.false_eq_true, if_false, maskArgs]
  have hnd := keys_zip_nodup p.explicit (maskFrom k p 0 c.args) hne
  have hmem : (n, v) ∈ p.explicit.zip (maskFrom k p 0 c.args) := List.mem_of_getElem? <|
    List.getElem?_zip_eq_some.mpr ⟨hn, (maskFrom_keeps k p hs 0 i c.args (by rwa [Nat.zero_add])).trans ha⟩
  rw [get?_update_nodup _ _ _ hnd, (mem_iff_get? _ hnd n v).mp hmem]; rfl

section Examples
def K0 : Consts Nat := { null := 0, star := 1, dstar := 2 }
/-- `def f(x, y, *args, **kw)`; objects: 10 = 'x', 11 = 'y', 12 = 'z' -/
def f0 : Func Nat := { pos := [⟨10, none⟩, ⟨11, none⟩], varargs := true, kwonly := [], varkw := true }
/-- `ignore=('y', '*')`: `f(1, 5, 7, 8)` and `f(1, 6, 9)` share a key, `f(2, 5)` does not -/
example : keygen K0 f0 [.name 11, .name 1] { args := [20, 25, 27, 28], kwds := [] } =
          keygen K0 f0 [.name 11, .name 1] { args := [20, 26, 29], kwds := [] } ∧
          keygen K0 f0 [.name 11, .name 1] { args := [20, 25], kwds := [] } ≠
          keygen K0 f0 [.name 11, .name 1] { args := [21, 25], kwds := [] } := by decide
/-- **F14, repaired**: `def g(x, *, k)` with `ignore='**'`: the keyword-only `k` is a parameter, not an *extra*
keyword; it stays in the key, so `g(1, k=5)` and `g(1, k=6)` are told apart (13 = 'k') - before the repair `'**'`
dropped it and the two calls collided -/
def g0 : Func Nat := { pos := [⟨10, none⟩], varargs := false, kwonly := [⟨13, none⟩], varkw := false }
example : keygen K0 g0 [.name 2] { args := [20], kwds := [(13, 25)] } ≠
          keygen K0 g0 [.name 2] { args := [20], kwds := [(13, 26)] } := by decide
end Examples

end Klepto.C11
