import Klepto.Props.C13
/-!
# C13: a crash, and then another one

`C13_dir_partial` speaks about one operation that is killed, starting from any readable directory.
A directory a killed writer leaves behind is again such a starting point - staging directories
included - so the statement iterates.  What it takes is that crash states keep the two side
conditions of `C13_dir_partial`: distinct names and fresh staging names (`crash_states_inv`).
Suite `fs` replays this (double-crash stratum).
-/
namespace Klepto.C13
open AMap Crash

variable {V : Type}

/-- **a crash, and then another one**: a second operation on what a killed writer left behind - itself killed at any
point - leaves a readable archive in which every name reads as after the first crash, or as the second operation allows. -/
theorem C13_dir_crash_again (ip : Bool) (acts₁ acts₂ : List (DAct V)) (s0 : DirFS V) (next : Nat)
    (hn : (keys s0).Nodup) (hf : FreshFrom next s0) (hr : Readable true s0)
    (c₁ : DirFS V) (h₁ : c₁ ∈ dirCrashStates s0 (actsProg true ip s0 next acts₁))
    (c₂ : DirFS V) (h₂ : c₂ ∈ dirCrashStates c₁ (actsProg true ip c₁ (next + 2 * acts₁.length) acts₂)) :
    Readable true c₂ ∧ (∀ n, allowed c₁ acts₂ n (valAt true c₂ n)) ∧ (∀ n, allowed s0 acts₁ n (valAt true c₁ n)) := by
  have hfB : FreshFrom (next + 2 * acts₁.length) s0 := freshFrom_mono (Nat.le_add_right _ _) _ hf
  obtain ⟨hn₁, hf₁⟩ := crash_states_inv (next + 2 * acts₁.length) _ s0 hn hfB (actsProg_tempsBelow ip acts₁ s0 next) c₁ h₁
  obtain ⟨hr₁, ha₁⟩ := C13_dir_partial ip acts₁ s0 next hn hf hr c₁ h₁
  obtain ⟨hr₂, ha₂⟩ := C13_dir_partial ip acts₂ c₁ _ hn₁ hf₁ hr₁ c₂ h₂
  exact ⟨hr₂, ha₂, ha₁⟩

/-- non-vacuity: `del d['a']` killed right after the rename-aside (the old entry sits in the staging directory `temp 0`),
then `d['a'] = 2` killed after staging: both memberships hold, and the fresh view has no `'a'` -/
example :
    let s0 : DirFS Nat := [(.key "a", { out := some (.full 1), inp := none })]
    let c₁ : DirFS Nat := [(.temp 0, { out := some (.full 1), inp := none })]
    let c₂ : DirFS Nat := [(.temp 0, { out := some (.full 1), inp := none }), (.temp 2, { out := some (.full 2), inp := none })]
    c₁ ∈ dirCrashStates s0 (actsProg true false s0 0 [.remove "a"]) ∧
    c₂ ∈ dirCrashStates c₁ (actsProg true false c₁ 2 [.store "a" false 2]) ∧ valAt true c₂ (.key "a") = none := by
  decide

end Klepto.C13
