import Klepto.Props.C05
import Klepto.Props.C07
/-!
# Re-entrant calls: a recursive memoized function is a flat history

M3's `call` is atomic: the function's result is an input of the step.  A recursive memoized
function is not atomic - between the failed lookup of the outer call and its `cache[key] = result`
the inner calls look up, store, evict and count.  This file gives the re-entrant execution a
semantics (`rstep`: a call that completes at once, `enter k` = lookup failed and the evaluation of
`k` starts, `leave v` = the innermost pending evaluation returns and the wrapper stores and purges,
`fail` = it raises) and proves that, as long as no evaluation asks for a key that is itself being
evaluated (which would not terminate), the execution IS an ordinary flat history of atomic calls:
every pending evaluation completes as a plain MISS at the state it completes in
(`reentrant_eq_flat`).  Hence every history theorem of M3 - the size bound, the well-formedness
of the bookkeeping, transparency, compute-once, the counters - speaks about recursive functions too
(`reentrant_wf` and `C05_reentrant_bound` are spelled out).  Suite `multi` (scenario `recur`) runs real recursive functions
against the same monitors.
-/
namespace Klepto.Reentrant
open AMap

variable {K V : Type} [DecidableEq K]

inductive Ev (K V : Type)
  | call (ci : CallIn K V)
  | enter (k : K)
  | leave (v : V) (victim : Option K)
  | fail

structure RSt (K V : Type) where
  s : St K V
  stack : List K          -- keys whose evaluation is pending, innermost first

def Absent (c : Cache K V) (k : K) : Prop := get? c.mem k = none ∧ c.aget k = none

def keyOnStack (st : List K) (ci : CallIn K V) : Bool :=
  match ci.key with
  | .ok j => st.contains j
  | _ => false

/-- one event (caching decorators); `none` = the event cannot happen in this state -/
def rstep (cfg : Cfg) (r : RSt K V) : Ev K V → Option (RSt K V)
  | .call ci => if keyOnStack r.stack ci then none else some { r with s := (callCached cfg r.s ci).1 }
  | .enter k =>
    if (get? r.s.c.mem k).isNone && (r.s.c.aget k).isNone && !r.stack.contains k then some { r with stack := k :: r.stack } else none
  | .leave v victim =>
    match r.stack with
    | k :: st => some { s := (missStep cfg r.s k v victim).1, stack := st }
    | [] => none
  | .fail =>
    match r.stack with
    | _ :: st => some { r with stack := st }
    | [] => none

def rrun (cfg : Cfg) : RSt K V → List (Ev K V) → Option (RSt K V)
  | r, [] => some r
  | r, e :: es => match rstep cfg r e with
    | some r' => rrun cfg r' es
    | none => none

/-- the ordinary calls a re-entrant trace amounts to: each completed evaluation is a call made when it completes -/
def flat : List K → List (Ev K V) → List (CallIn K V)
  | _, [] => []
  | st, .call ci :: es => ci :: flat st es
  | st, .enter k :: es => flat (k :: st) es
  | k :: st, .leave v victim :: es => { key := .ok k, fn := .ok v, victim := victim } :: flat st es
  | [], .leave _ _ :: es => flat [] es
  | _ :: st, .fail :: es => flat st es
  | [], .fail :: es => flat [] es

def runCalls (cfg : Cfg) (s : St K V) (cs : List (CallIn K V)) : St K V := cs.foldl (fun s ci => (callCached cfg s ci).1) s

structure Inv (r : RSt K V) : Prop where
  nodupMem : (keys r.s.c.mem).Nodup
  nodupStack : r.stack.Nodup
  absent : ∀ k ∈ r.stack, Absent r.s.c k

/-- a pending evaluation that returns is a plain MISS of an absent key -/
theorem callCached_of_absent (cfg : Cfg) (s : St K V) (k : K) (v : V) (victim : Option K) (h : Absent s.c k) :
    callCached cfg s { key := .ok k, fn := .ok v, victim := victim } = missStep cfg s k v victim := by
  have hl : get? (s.c.preload k).mem k = none := by rw [preload_get_self, h.2, h.1]
  simp only [callCached, h.1, hl]

/-- a call with another key leaves an absent key absent -/
theorem absent_callCached (cfg : Cfg) (s : St K V) (ci : CallIn K V) (k : K) (hn : (keys s.c.mem).Nodup)
    (hk : Absent s.c k) (hne : ci.key ≠ .ok k) : Absent (callCached cfg s ci).1.c k := by
  obtain ⟨c2, hc2, hmv, _⟩ := callCached_rel cfg s ci hn
  have h2 : get? c2.mem k = none ∧ c2.aget k = none := by
    rcases hc2 with ⟨rfl, _, _⟩ | ⟨k', v, hk', hins, _, _⟩
    · exact hk
    · have hkk : k ≠ k' := fun h => hne (by rw [hk', h])
      exact ⟨by rw [hins.get_other k hkk]; exact hk.1, by rw [hins.aget k]; exact hk.2⟩
  constructor
  · rcases hmv.mem k with h | h
    · rw [h]; exact h2.1
    · exact h
  · rcases hmv.arch k with h | h
    · rw [h]; exact h2.2
    · rw [h2.1] at h; simp at h

theorem inv_callCached (cfg : Cfg) (s : St K V) (st : List K) (ci : CallIn K V) (hn : (keys s.c.mem).Nodup)
    (hs : st.Nodup) (ha : ∀ k ∈ st, Absent s.c k) (hne : ∀ k ∈ st, ci.key ≠ .ok k) :
    Inv { s := (callCached cfg s ci).1, stack := st } :=
  ⟨(C07.traffic_callCached cfg s ci hn).nodup hn, hs, fun k hk => absent_callCached cfg s ci k hn (ha k hk) (hne k hk)⟩

/-- one event keeps the invariant, and is an ordinary call made now (`call`, `leave`) or no call (`enter`, `fail`) -/
theorem rstep_flat (cfg : Cfg) (r r' : RSt K V) (e : Ev K V) (hI : Inv r) (h : rstep cfg r e = some r') :
    Inv r' ∧ ∀ es, runCalls cfg r.s (flat r.stack (e :: es)) = runCalls cfg r'.s (flat r'.stack es) := by
  obtain ⟨s, st⟩ := r
  obtain ⟨hn, hs, ha⟩ := hI
  dsimp only at hn hs ha ⊢
  cases e with
  | call ci =>
    dsimp only [rstep] at h
    by_cases hks : keyOnStack st ci = true
    · rw [if_pos hks] at h; cases h
    · rw [if_neg hks] at h; cases h
      refine ⟨inv_callCached cfg s st ci hn hs ha fun k hk heq => hks ?_, fun es => rfl⟩
      simpa [keyOnStack, heq] using hk
  | enter k =>
    dsimp only [rstep] at h
    split at h
    · rename_i hg
      cases h
      simp only [Bool.and_eq_true, Option.isNone_iff_eq_none, Bool.not_eq_true', List.contains_eq_mem,
        decide_eq_false_iff_not] at hg
      refine ⟨⟨hn, List.nodup_cons.mpr ⟨hg.2, hs⟩, fun j hj => ?_⟩, fun es => rfl⟩
      rcases List.mem_cons.mp hj with rfl | hj
      · exact hg.1
      · exact ha j hj
    · cases h
  | leave v victim =>
    cases st with
    | nil => cases h
    | cons k st =>
      cases h
      have hnd := List.nodup_cons.mp hs
      have hk := callCached_of_absent cfg s k v victim (ha k List.mem_cons_self)
      refine ⟨hk ▸ inv_callCached cfg s st _ hn hnd.2 (fun j hj => ha j (List.mem_cons_of_mem _ hj))
        fun j hj heq => hnd.1 ?_, fun es => congrArg (fun x => runCalls cfg x.1 (flat st es)) hk⟩
      cases heq; exact hj
  | fail =>
    cases st with
    | nil => cases h
    | cons k st =>
      cases h
      exact ⟨⟨hn, (List.nodup_cons.mp hs).2, fun j hj => ha j (List.mem_cons_of_mem _ hj)⟩, fun es => rfl⟩

/-- **a re-entrant execution is a flat history**: the final state of any execution in which no evaluation asks for a
key that is being evaluated equals the final state of the ordinary calls `flat` lists, made one after the other -/
theorem reentrant_eq_flat (cfg : Cfg) (es : List (Ev K V)) (r r' : RSt K V) (hI : Inv r) (h : rrun cfg r es = some r') :
    r'.s = runCalls cfg r.s (flat r.stack es) ∧ Inv r' := by
  induction es generalizing r with
  | nil => simp only [rrun] at h; cases h; exact ⟨rfl, hI⟩
  | cons e es ih =>
    simp only [rrun] at h
    cases hs : rstep cfg r e with
    | none => simp [hs] at h
    | some r1 =>
      simp only [hs] at h
      obtain ⟨hI1, hf⟩ := rstep_flat cfg r r1 e hI hs
      obtain ⟨e1, e2⟩ := ih r1 hI1 h
      exact ⟨by rw [e1, hf], e2⟩

theorem wf_runCalls (cfg : Cfg) (cs : List (CallIn K V)) (s : St K V) (hW : WF cfg s) (hmp : MruNoPurge cfg) :
    WF cfg (runCalls cfg s cs) := by
  unfold runCalls
  induction cs generalizing s with
  | nil => exact hW
  | cons c cs ih =>
    simp only [List.foldl_cons]
    exact ih _ (wf_callCached (cfg := cfg) (s := s) c hW hmp)

/-- the bookkeeping stays well formed through any re-entrant execution -/
theorem reentrant_wf (cfg : Cfg) (es : List (Ev K V)) (r r' : RSt K V) (hI : Inv r) (hW : WF cfg r.s) (hmp : MruNoPurge cfg)
    (h : rrun cfg r es = some r') : WF cfg r'.s := by
  rw [(reentrant_eq_flat cfg es r r' hI h).1]
  exact wf_runCalls cfg _ r.s hW hmp

/-! a concrete re-entrant execution: `lru_cache(maxsize=2)`, `f(3)` evaluates `f(2)` and `f(1)` (keys 3, 2, 1; values 30, 20, 10),
then `f(2)` again is a hit -/
section Example
def lru2 : Cfg := { algo := .lru, safe := false, maxsize := 2, purge := false }
def r0 : RSt Nat Nat := { s := St.init { mem := [], arch := some [], swap := none }, stack := [] }
def trace : List (Ev Nat Nat) :=
  [.enter 3, .enter 2, .call { key := .ok 1, fn := .ok 10, victim := none }, .leave 20 none, .call { key := .ok 1, fn := .ok 10, victim := none },
   .leave 30 none, .call { key := .ok 2, fn := .ok 20, victim := none }]
example : (rrun lru2 r0 trace).isSome = true ∧ ((rrun lru2 r0 trace).map (fun r => (keys r.s.c.mem, r.stack))) = some ([3, 2], []) := by decide
example : Inv r0 := ⟨by decide, by decide, fun k hk => by simp [r0] at hk⟩
end Example

end Klepto.Reentrant

namespace Klepto.C05
open Klepto.Reentrant
variable {K V : Type} [DecidableEq K]

/-- the harness's side conditions (rr's victim is resident, no mru `IndexError`) for each of the flat calls -/
def okCalls (cfg : Cfg) : St K V → List (CallIn K V) → Bool
  | _, [] => true
  | s, c :: cs => okCall cfg s c && okCalls cfg (callCached cfg s c).1 cs

theorem runCalls_bound (cfg : Cfg) (cs : List (CallIn K V)) (s : St K V)
    (halg : cfg.algo ≠ .inf ∧ cfg.algo ≠ .no) (hmp : MruNoPurge cfg)
    (hW : WF cfg s) (h0 : s.c.mem.length ≤ cfg.maxsize) (hok : okCalls cfg s cs = true) :
    (runCalls cfg s cs).c.mem.length ≤ cfg.maxsize := by
  unfold runCalls
  induction cs generalizing s with
  | nil => simpa using h0
  | cons c cs ih =>
    simp only [okCalls, okCall, Bool.and_eq_true, Bool.not_eq_true'] at hok
    simp only [List.foldl_cons]
    have hstep := C05_step cfg s c halg hW hok.1.1 hok.1.2
    rw [call_eq_callCached halg.2] at hstep
    exact ih _ (wf_callCached c hW hmp) (Nat.le_trans hstep (Nat.max_le.mpr ⟨Nat.le_refl _, h0⟩)) hok.2

/-- **C05 for recursive memoized functions**: through any re-entrant execution (no evaluation asks for a key that is
being evaluated) that starts within the bound, the cache is within its bound whenever a call has completed. -/
theorem C05_reentrant_bound (cfg : Cfg) (es : List (Ev K V)) (r r' : RSt K V)
    (halg : cfg.algo ≠ .inf ∧ cfg.algo ≠ .no) (hmp : MruNoPurge cfg)
    (hI : Inv r) (hW : WF cfg r.s) (h0 : r.s.c.mem.length ≤ cfg.maxsize)
    (hok : okCalls cfg r.s (flat r.stack es) = true)
    (h : rrun cfg r es = some r') : r'.s.c.mem.length ≤ cfg.maxsize := by
  rw [(reentrant_eq_flat cfg es r r' hI h).1]
  exact runCalls_bound cfg _ r.s halg hmp hW h0 hok

end Klepto.C05
