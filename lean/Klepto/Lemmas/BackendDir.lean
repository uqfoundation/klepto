import Klepto.Lemmas.DictSpec
/-!
Lemmas about the `dir_archive` model (`dirStep` on `DirSt`): under the invariant "every directory is named by the
file name of the key it reports" and a key universe on which the file-name map is injective, the
directory tree *is* a dict: `toDict` lists it, and lookups by file name are lookups by key.
-/
namespace Klepto.Backend
open AMap
variable {K V : Type}

/-- the dict a directory tree denotes: reported key ↦ value, in listing order -/
def toDict (c : Codec K V) (s : DirSt K V) : List (K × V) := s.map fun p => (entryKey c p.1 p.2, p.2.val)

/-- what the property's quantifier asks of the keys: the backend accepts them — their file names are
distinct, and a key stored without an input file is recovered from its directory name -/
structure DirCodecOK (c : Codec K V) (U : K → Prop) : Prop where
  inj : ∀ a b, U a → U b → c.fname a = c.fname b → a = b
  plain_ok : ∀ k, U k → c.plain k = true → c.strKey (c.fname k) = k

/-- reachable states.  Per entry: the key it reports is one the property quantifies over (so `DirCodecOK.inj` applies),
the directory is named after that key (lookups by file name are lookups by key), and its value reads back as
stored (a value found may be stored again: `setdefault`) -/
def DirInv (c : Codec K V) (U : K → Prop) (s : DirSt K V) : Prop :=
  (keys s).Nodup ∧ ∀ p ∈ s, U (entryKey c p.1 p.2) ∧ c.fname (entryKey c p.1 p.2) = p.1 ∧ c.cv p.2.val = some p.2.val

variable {c : Codec K V} {U : K → Prop}

theorem DirInv.tail {p : String × DirEntry K V} {s : DirSt K V} (h : DirInv c U (p :: s)) : DirInv c U s :=
  ⟨(List.nodup_cons.mp h.1).2, fun q hq => h.2 q (List.mem_cons_of_mem _ hq)⟩

theorem dirInv_erase (s : DirSt K V) (h : DirInv c U s) (n : String) : DirInv c U (erase s n) :=
  ⟨nodup_keys_erase s n h.1, fun p hp => h.2 p (mem_erase s n p hp)⟩

theorem name_eq_iff (hc : DirCodecOK c U) {s : DirSt K V} (h : DirInv c U s) {k : K} (hk : U k)
    {p : String × DirEntry K V} (hp : p ∈ s) : p.1 = c.fname k ↔ entryKey c p.1 p.2 = k := by
  obtain ⟨hu, hf, _⟩ := h.2 p hp
  exact ⟨fun hn => hc.inj _ _ hu hk (hf.trans hn), fun he => he ▸ hf.symm⟩

theorem toDict_nodup (s : DirSt K V) (h : DirInv c U s) : (keys (toDict c s)).Nodup := by
  -- the directory names are the file names of the reported keys, so these are distinct as well
  have e : (keys (toDict c s)).map c.fname = keys s := by
    simp only [keys, toDict, List.map_map]
    exact List.map_congr_left fun p hp => (h.2 p hp).2.1
  exact List.Pairwise.of_map c.fname (fun _ _ hne e => hne (congrArg _ e)) (e ▸ h.1)

theorem toDict_mem (s : DirSt K V) (h : DirInv c U s) (q : K × V) (hq : q ∈ toDict c s) :
    U q.1 ∧ c.cv q.2 = some q.2 := by
  obtain ⟨p, hp, rfl⟩ := List.mem_map.mp hq
  exact ⟨(h.2 p hp).1, (h.2 p hp).2.2⟩

variable [DecidableEq K]

theorem dirGet_eq (hc : DirCodecOK c U) (s : DirSt K V) (h : DirInv c U s) (k : K) (hk : U k) :
    dirGet c s k = get? (toDict c s) k := by
  unfold dirGet
  induction s with
  | nil => rfl
  | cons p s ih =>
    simp only [toDict, List.map_cons, get?, ← name_eq_iff hc h hk List.mem_cons_self]
    split
    · rfl
    · exact ih h.tail

theorem has_dir (hc : DirCodecOK c U) (s : DirSt K V) (h : DirInv c U s) (k : K) (hk : U k) :
    has s (c.fname k) = (get? (toDict c s) k).isSome := by
  rw [← dirGet_eq hc s h k hk, dirGet, Option.isSome_map]; rfl

theorem toDict_erase (hc : DirCodecOK c U) (s : DirSt K V) (h : DirInv c U s) (k : K) (hk : U k) :
    toDict c (erase s (c.fname k)) = erase (toDict c s) k := by
  induction s with
  | nil => rfl
  | cons p s ih =>
    simp only [toDict, List.map_cons, erase, ← name_eq_iff hc h hk List.mem_cons_self]
    split
    · rfl
    · exact congrArg _ (ih h.tail)

theorem view_dirRm (hc : DirCodecOK c U) (s : DirSt K V) (h : DirInv c U s) (k : K) (hk : U k) :
    get? (toDict c (dirRm c s k)) = View.del (get? (toDict c s)) k ∧ DirInv c U (dirRm c s k) :=
  ⟨by rw [dirRm, toDict_erase hc s h k hk, view_erase _ k (toDict_nodup s h)], dirInv_erase s h _⟩

theorem view_dirStore (hc : DirCodecOK c U) (s : DirSt K V) (h : DirInv c U s) (k : K) (hk : U k) (v : V)
    (hv : c.cv v = some v) :
    ∃ s', dirStore c s k v = some s' ∧ get? (toDict c s') = View.put (get? (toDict c s)) k v ∧ DirInv c U s' := by
  let e : DirEntry K V := { inp := if c.plain k then none else some k, val := v }
  have hkey : entryKey c (c.fname k) e = k := by
    by_cases hp : c.plain k = true <;> simp [entryKey, e, hp, hc.plain_ok k hk]
  have hi := dirInv_erase s h (c.fname k)
  refine ⟨put (erase s (c.fname k)) (c.fname k) e, by simp [dirStore, hv, e], ?_, ?_⟩
  · -- the new directory is listed last; the others are those of `dirRm`
    rw [put_append_of_not_mem _ _ _ (not_mem_keys_erase s _ h.1)]
    funext j
    rw [toDict, List.map_append, get?_append, ← toDict, toDict_erase hc s h k hk,
      get?_erase _ k j (toDict_nodup s h)]
    by_cases hj : j = k
    · simp [View.put, get?, hkey, hj, e]
    · simp [View.put, get?, hkey, hj, Ne.symm hj, Option.or_none]
  · refine ⟨nodup_keys_put _ _ _ hi.1, fun p hp => ?_⟩
    rcases mem_put _ _ _ p hp with rfl | hp
    · exact ⟨hkey.symm ▸ hk, congrArg _ hkey, hv⟩
    · exact hi.2 p hp

theorem dirKeys_eq (s : DirSt K V) (h : DirInv c U s) : dirKeys c s = keys (toDict c s) := by
  have e : keys (s.map fun p => (entryKey c p.1 p.2, ())) = keys (toDict c s) := by
    simp [keys, toDict, List.map_map, Function.comp]
  rw [dirKeys, normalize_id _ (e ▸ toDict_nodup s h), e]

theorem dirItems_eq (hc : DirCodecOK c U) (s : DirSt K V) (h : DirInv c U s) : dirItems c s = some (toDict c s) := by
  rw [dirItems, dirKeys_eq s h]
  refine mapM_keys _ _ fun p hp => ?_
  rw [dirGet_eq hc s h p.1 (toDict_mem s h p hp).1]
  exact (mem_iff_get? _ (toDict_nodup s h) p.1 p.2).mp hp

theorem allPresentOnce_dirKeys (s : DirSt K V) (h : DirInv c U s) (ks : List K) :
    allPresentOnce ((dirKeys c s).map fun k => (k, ())) ks = (View.popAll (get? (toDict c s)) ks).isSome := by
  have e : keys ((dirKeys c s).map fun k => (k, ())) = keys (toDict c s) := by
    rw [dirKeys_eq s h, keys, List.map_map]; exact List.map_id _
  refine allPresentOnce_eq _ _ ks (e ▸ toDict_nodup s h) fun k => ?_
  rw [Bool.eq_iff_iff, has_iff_mem_keys, e, ← has_iff_mem_keys]; rfl

/-- `pop(k, x)` removes the directory only when the lookup succeeded; the contents lose `k` either way
(the `match` is the one `dirPopSeq` unfolds to) -/
theorem view_dirRm_found (hc : DirCodecOK c U) (s : DirSt K V) (h : DirInv c U s) (k : K) (hk : U k) :
    get? (toDict c (match dirGet c s k with | some _ => dirRm c s k | none => s)) = View.del (get? (toDict c s)) k ∧
    DirInv c U (match dirGet c s k with | some _ => dirRm c s k | none => s) := by
  cases hg : dirGet c s k with
  | some _ => exact view_dirRm hc s h k hk
  | none => exact ⟨(View.del_of_none _ k (dirGet_eq hc s h k hk ▸ hg)).symm, h⟩

theorem dirPopSeq_view (hc : DirCodecOK c U) (x : V) (s : DirSt K V) (ks : List K) (h : DirInv c U s)
    (hks : ∀ k ∈ ks, U k) :
    get? (toDict c (dirPopSeq c x s ks).1) = (View.popSeq x (get? (toDict c s)) ks).1 ∧
    (dirPopSeq c x s ks).2 = (View.popSeq x (get? (toDict c s)) ks).2 ∧ DirInv c U (dirPopSeq c x s ks).1 := by
  induction ks generalizing s with
  | nil => exact ⟨rfl, rfl, h⟩
  | cons k ks ih =>
    obtain ⟨hk, hks⟩ := List.forall_mem_cons.mp hks
    obtain ⟨e, hi⟩ := view_dirRm_found hc s h k hk
    obtain ⟨h1, h2, h3⟩ := ih _ hi hks
    rw [e] at h1 h2
    simp only [dirPopSeq, View.popSeq, ← dirGet_eq hc s h k hk]
    exact ⟨h1, congrArg _ h2, h3⟩

theorem dirPopAll_view (hc : DirCodecOK c U) (s : DirSt K V) (ks : List K) (h : DirInv c U s) (hks : ∀ k ∈ ks, U k)
    (r : View K V × List V) (hr : View.popAll (get? (toDict c s)) ks = some r) :
    ∃ s', dirPopAll c s ks = (s', some r.2) ∧ get? (toDict c s') = r.1 ∧ DirInv c U s' := by
  induction ks generalizing s r with
  | nil => cases hr; exact ⟨s, rfl, rfl, h⟩
  | cons k ks ih =>
    obtain ⟨hk, hks⟩ := List.forall_mem_cons.mp hks
    obtain ⟨e, hi⟩ := view_dirRm hc s h k hk
    obtain ⟨v, r', hg, hr', rfl⟩ := View.popAll_cons hr
    obtain ⟨s', e', h1, h2⟩ := ih _ hi hks r' (e ▸ hr')
    exact ⟨s', by simp only [dirPopAll, dirGet_eq hc s h k hk, hg, e', Option.map_some], h1, h2⟩

theorem dirUpdate_view (hc : DirCodecOK c U) (s : DirSt K V) (l : List (K × V)) (h : DirInv c U s)
    (hl : ∀ p ∈ l, U p.1 ∧ c.cv p.2 = some p.2) :
    ∃ s', dirUpdate c s l = (s', none) ∧ get? (toDict c s') = View.putAll (get? (toDict c s)) l ∧ DirInv c U s' := by
  induction l generalizing s with
  | nil => exact ⟨s, rfl, rfl, h⟩
  | cons p l ih =>
    obtain ⟨⟨hk, hv⟩, hl⟩ := List.forall_mem_cons.mp hl
    obtain ⟨s₁, e, h1, h2⟩ := view_dirStore hc s h p.1 hk p.2 hv
    obtain ⟨s', e', h1', h2'⟩ := ih s₁ h2 hl
    exact ⟨s', by rw [dirUpdate, e]; exact e', by rw [h1', h1]; rfl, h2'⟩

end Klepto.Backend
