import Klepto.Model.FS
import Klepto.Lemmas.AMap
/-!
The disk model M8 (`Model/FS.lean`) read *as a function of names* (`get? s : DView V`): a system call
is a function on views (`vstep`, `get?_dstep`) that changes only the names it mentions (`sysNames`,
`vstep_frame`) and looks only at them (`vstep_local`).  Hence calls on staging names are invisible to
a reader (`visEq_tempOnly`) and, in `Lemmas/Sched.lean`, calls on different names commute.  Crash
states are reached by one induction, `allCrash_of_inv`.  The view layer (`DView`, `sysNames`, `entryEffect`, `vstep`, `vrun`)
is in namespace `Sched`, where `Lemmas/Sched.lean` continues it; what is said of `dstep` and of crash states around it, in `Crash`.
-/
namespace Klepto.Crash
open AMap
variable {V : Type}

/-- putting back the entry that is there changes nothing: a failing call, on the disk as a function of names -/
theorem ite_eq_self {α β : Type} [DecidableEq α] (d : α → β) {n : α} {o : β} (h : d n = o) (m : α) :
    (if m = n then o else d m) = d m := by
  split
  · next e => rw [e, h]
  · rfl

theorem get?_upd (s : DirFS V) (n m : DName) (f : DDir V → DDir V) :
    get? (upd s n f) m = if m = n then (get? s n).map f else get? s m := by
  unfold upd
  cases hg : get? s n with
  | none => exact (ite_eq_self _ hg m).symm
  | some d => exact get?_put ..

theorem nodup_upd (s : DirFS V) (n : DName) (f : DDir V → DDir V) (h : (keys s).Nodup) : (keys (upd s n f)).Nodup := by
  unfold upd
  cases get? s n with
  | none => exact h
  | some d => exact nodup_keys_put s n _ h

theorem nodup_dstep (s : DirFS V) (x : DSys V) (h : (keys s).Nodup) : (keys (dstep s x)).Nodup := by
  cases x with
  | mkdir n => dsimp only [dstep]; split; exact h; exact nodup_keys_put _ _ _ h
  | close => exact h
  | rmdir n =>
    dsimp only [dstep]; split
    · split; exact nodup_keys_erase _ _ h; exact h
    · exact h
  | rename a b => dsimp only [dstep]; split; exact nodup_keys_put _ _ _ (nodup_keys_erase _ _ h); exact h
  | _ => exact nodup_upd _ _ _ h

theorem nodup_drun (s : DirFS V) (p : List (DSys V)) (h : (keys s).Nodup) : (keys (drun s p)).Nodup := by
  unfold drun
  induction p generalizing s with
  | nil => exact h
  | cons x xs ih => exact ih _ (nodup_dstep s x h)

theorem drun_cons (s : DirFS V) (x : DSys V) (p : List (DSys V)) : drun s (x :: p) = drun (dstep s x) p := rfl

theorem drun_append (s : DirFS V) (p q : List (DSys V)) : drun s (p ++ q) = drun (drun s p) q :=
  List.foldl_append ..

end Klepto.Crash

namespace Klepto.Sched
open AMap Crash
variable {V : Type}

abbrev DView (V : Type) := DName → Option (DDir V)

def sysNames : DSys V → List DName
  | .mkdir n | .creatOut n | .writeOut n _ | .tornOut n | .creatIn n | .writeIn n | .tornIn n
  | .unlinkOut n | .unlinkIn n | .rmdir n => [n]
  | .rename a b => [a, b]
  | .close => []

/-- what a single-name call does to the entry under its name -/
def entryEffect : DSys V → Option (DDir V) → Option (DDir V)
  | .mkdir _, none => some { out := none, inp := none }
  | .mkdir _, some d => some d
  | .creatOut _, o => o.map fun d => { d with out := some .empty }
  | .writeOut _ v, o => o.map fun d => if d.out.isSome then { d with out := some (.full v) } else d
  | .tornOut _, o => o.map fun d => if d.out.isSome then { d with out := some .torn } else d
  | .creatIn _, o => o.map fun d => { d with inp := some .empty }
  | .writeIn _, o => o.map fun d => if d.inp.isSome then { d with inp := some (.full ()) } else d
  | .tornIn _, o => o.map fun d => if d.inp.isSome then { d with inp := some .torn } else d
  | .unlinkOut _, o => o.map fun d => { d with out := none }
  | .unlinkIn _, o => o.map fun d => { d with inp := none }
  | .rmdir _, some d => if d.out.isNone && d.inp.isNone then none else some d
  | .rmdir _, none => none
  | _, o => o

/-- a system call as a function on views.  Every call but `close` and `rename` goes through `sysNames` and `entryEffect`,
so that `sysNames_cases` is the only case analysis a proof about calls needs (`vstep_single`) -/
def vstep (d : DView V) : DSys V → DView V
  | .close => d
  | .rename a b => fun m =>
    match d a, d b with
    | some e, none => if m = b then some e else if m = a then none else d m
    | _, _ => d m
  | x => fun m => match sysNames x with
    | [n] => if m = n then entryEffect x (d n) else d m
    | _ => d m

def vrun (d : DView V) (p : List (DSys V)) : DView V := p.foldl vstep d

@[elab_as_elim] theorem sysNames_cases {motive : DSys V → Prop} (close : motive .close)
    (rename : ∀ a b, motive (.rename a b)) (single : ∀ x n, sysNames x = [n] → motive x) (x : DSys V) : motive x := by
  cases x with
  | close => exact close
  | rename a b => exact rename a b
  | _ => exact single _ _ rfl

theorem vstep_single (d : DView V) (x : DSys V) (n : DName) (h : sysNames x = [n]) (m : DName) :
    vstep d x m = if m = n then entryEffect x (d n) else d m := by
  cases x <;> cases h <;> rfl

theorem get?_dstep (s : DirFS V) (x : DSys V) (hn : (keys s).Nodup) : get? (dstep s x) = vstep (get? s) x := by
  funext m
  cases x with
  | mkdir n =>
    dsimp only [dstep, vstep, sysNames]
    unfold has
    cases hg : get? s n with
    | none => exact get?_put ..
    | some d => exact (ite_eq_self _ hg m).symm
  | close => rfl
  | rmdir n =>
    dsimp only [dstep, vstep, sysNames]
    cases hg : get? s n with
    | none => exact (ite_eq_self _ hg m).symm
    | some d =>
      dsimp only [entryEffect]
      cases d.out.isNone && d.inp.isNone with
      | true => exact get?_erase _ _ _ hn
      | false => exact (ite_eq_self _ hg m).symm
  | rename a b =>
    dsimp only [dstep, vstep]
    -- only `a` present and `b` absent renames; in the other three cases both sides are the disk as it was
    cases get? s a <;> cases get? s b <;> simp only []
    rw [get?_put, get?_erase _ _ _ hn]
  | _ => exact get?_upd ..

theorem vrun_cons (d : DView V) (x : DSys V) (p : List (DSys V)) : vrun d (x :: p) = vrun (vstep d x) p := rfl

theorem vrun_append (d : DView V) (p q : List (DSys V)) : vrun d (p ++ q) = vrun (vrun d p) q :=
  List.foldl_append ..

theorem get?_drun (s : DirFS V) (p : List (DSys V)) (hn : (keys s).Nodup) : get? (drun s p) = vrun (get? s) p := by
  induction p generalizing s with
  | nil => rfl
  | cons x xs ih => rw [drun_cons, vrun_cons, ih _ (nodup_dstep s x hn), get?_dstep s x hn]

theorem vstep_frame (d : DView V) (x : DSys V) (m : DName) (hm : m ∉ sysNames x) : vstep d x m = d m := by
  induction x using sysNames_cases with
  | close => rfl
  | rename a b =>
    simp only [sysNames, List.mem_cons, List.mem_nil_iff, or_false, not_or] at hm
    dsimp only [vstep]
    split <;> simp [hm.1, hm.2]
  | single x n h => rw [vstep_single d x n h]; exact if_neg fun e => hm (by rw [h, e]; exact .head _)

theorem vstep_local (d d' : DView V) (x : DSys V) (h : ∀ n ∈ sysNames x, d n = d' n) (m : DName) (hm : m ∈ sysNames x) :
    vstep d x m = vstep d' x m := by
  induction x using sysNames_cases with
  | close => cases hm
  | rename a b =>
    dsimp only [vstep]
    rw [h a (.head _), h b (.tail _ (.head _)), h m hm]
  | single x n hx => rw [vstep_single d x n hx, vstep_single d' x n hx, h n (hx ▸ .head _), h m hm]

theorem vrun_frame (d : DView V) (p : List (DSys V)) (m : DName) (hm : ∀ x ∈ p, m ∉ sysNames x) : vrun d p m = d m := by
  induction p generalizing d with
  | nil => rfl
  | cons x xs ih =>
    rw [vrun_cons, ih _ (fun y hy => hm y (List.mem_cons_of_mem _ hy)), vstep_frame d x m (hm x (by simp))]

theorem vrun_single (d : DView V) (p : List (DSys V)) (n : DName) (hp : ∀ x ∈ p, sysNames x = [n]) (m : DName) :
    vrun d p m = if m = n then p.foldl (fun o x => entryEffect x o) (d n) else d m := by
  split
  · next h =>
    subst h
    induction p generalizing d with
    | nil => rfl
    | cons x xs ih =>
      rw [vrun_cons, ih _ (fun y hy => hp y (List.mem_cons_of_mem _ hy)), List.foldl_cons,
        vstep_single d x m (hp x (by simp)), if_pos rfl]
  · next h => exact vrun_frame d p m fun x hx hm => h (by rw [hp x hx] at hm; exact List.mem_singleton.mp hm)

end Klepto.Sched

namespace Klepto.Crash
open AMap Sched
variable {V : Type}

theorem get?_dstep_frame (s : DirFS V) (x : DSys V) (m : DName) (hn : (keys s).Nodup) (h : m ∉ sysNames x) :
    get? (dstep s x) m = get? s m := by
  rw [get?_dstep s x hn]; exact vstep_frame _ x m h

/-- the disk states agree on every entry a reader can see (staging names are hidden) -/
def VisEq (s s' : DirFS V) : Prop := ∀ m, get? s (.key m) = get? s' (.key m)

theorem VisEq.refl (s : DirFS V) : VisEq s s := fun _ => rfl
theorem VisEq.trans {a b c : DirFS V} (h1 : VisEq a b) (h2 : VisEq b c) : VisEq a c := fun m => (h1 m).trans (h2 m)
theorem VisEq.symm {a b : DirFS V} (h : VisEq a b) : VisEq b a := fun m => (h m).symm

theorem valAt_congr {s s' : DirFS V} (h : VisEq s s') (n : DName) : valAt true s n = valAt true s' n := by
  cases n with
  | key m => simp [valAt, visible, h m]
  | temp i => simp [valAt, visible]

theorem readable_congr {s s' : DirFS V} (h : VisEq s s') (hr : Readable true s) : Readable true s' := by
  intro n d hg hv
  cases n with
  | key m => exact hr (.key m) d (by rw [h m]; exact hg) hv
  | temp i => simp [visible] at hv

def TempOnly : DSys V → Prop
  | .mkdir (.temp _) | .creatOut (.temp _) | .writeOut (.temp _) _ | .tornOut (.temp _) | .creatIn (.temp _)
  | .writeIn (.temp _) | .tornIn (.temp _) | .close | .unlinkOut (.temp _) | .unlinkIn (.temp _) | .rmdir (.temp _) => True
  | .rename (.temp _) (.temp _) => True
  | _ => False

theorem TempOnly.key_not_mem {x : DSys V} (hx : TempOnly x) (m : String) : DName.key m ∉ sysNames x := by
  cases x with
  | close => exact List.not_mem_nil
  | rename a b =>
    cases a with
    | key _ => exact hx.elim
    | temp _ => cases b with
      | key _ => exact hx.elim
      | temp _ => simp [sysNames]
  | mkdir n | creatOut n | writeOut n v | tornOut n | creatIn n | writeIn n | tornIn n | unlinkOut n | unlinkIn n | rmdir n =>
    cases n with
    | key _ => exact hx.elim
    | temp _ => simp [sysNames]

/-- a call that names only staging directories changes nothing a reader can see -/
theorem visEq_tempOnly (s : DirFS V) (x : DSys V) (hx : TempOnly x) (hn : (keys s).Nodup) : VisEq (dstep s x) s :=
  fun m => get?_dstep_frame s x _ hn (hx.key_not_mem m)

theorem allCrash_iff (P : DirFS V → Prop) (s : DirFS V) (p : List (DSys V)) :
    AllCrash P s p ↔ ∀ c ∈ dirCrashStates s p, P c := by
  induction p generalizing s with
  | nil => exact (List.forall_mem_singleton (p := P)).symm
  | cons x xs ih =>
    dsimp only [dirCrashStates, AllCrash]
    simp only [List.forall_mem_cons, List.forall_mem_append, ih, and_assoc]
    refine and_congr_right fun _ => and_congr_left fun _ => ?_
    split
    · exact (List.forall_mem_singleton (p := P)).symm
    · exact (List.forall_mem_singleton (p := P)).symm
    · exact (iff_true_intro (List.forall_mem_nil P)).symm

theorem AllCrash.mono {P Q : DirFS V → Prop} {s : DirFS V} {p : List (DSys V)} (h : AllCrash P s p)
    (hPQ : ∀ c, P c → Q c) : AllCrash Q s p :=
  (allCrash_iff ..).mpr fun c hc => hPQ c ((allCrash_iff ..).mp h c hc)

theorem AllCrash.final {P : DirFS V → Prop} {s : DirFS V} {p : List (DSys V)} (h : AllCrash P s p) : P (drun s p) := by
  induction p generalizing s with
  | nil => exact h
  | cons x xs ih => exact ih h.2.2

theorem allCrash_append (P : DirFS V → Prop) (s : DirFS V) (p q : List (DSys V))
    (h1 : AllCrash P s p) (h2 : AllCrash P (drun s p) q) : AllCrash P s (p ++ q) := by
  induction p generalizing s with
  | nil => exact h2
  | cons x xs ih => exact ⟨h1.1, h1.2.1, ih _ h1.2.2 h2⟩

/-- Stated over variables on purpose: closing a goal `AllCrash P X [.rename a b]` by `⟨_, trivial, _⟩`
where `X` is a long `drun` term is slower to check. -/
theorem allCrash_concat_rename (P : DirFS V → Prop) (s : DirFS V) (p : List (DSys V)) (a b : DName)
    (h1 : AllCrash P s p) (h2 : P (drun s (p ++ [.rename a b]))) : AllCrash P s (p ++ [.rename a b]) :=
  allCrash_append P s p _ h1 ⟨h1.final, trivial, by rwa [drun_append] at h2⟩

/-- `hto`, `hti`: a crash state may hold the torn version of the next write, so the class `G` of
calls that keep `I` has to contain it -/
theorem allCrash_of_inv (I : DirFS V → Prop) (G : DSys V → Prop) (hstep : ∀ s x, G x → I s → I (dstep s x))
    (hto : ∀ n v, G (.writeOut n v) → G (.tornOut n)) (hti : ∀ n, G (.writeIn n) → G (.tornIn n))
    (s : DirFS V) (p : List (DSys V)) (hp : ∀ x ∈ p, G x) (h : I s) : AllCrash I s p := by
  induction p generalizing s with
  | nil => exact h
  | cons x xs ih =>
    have hx := hp x (by simp)
    refine ⟨h, ?_, ih _ (fun y hy => hp y (List.mem_cons_of_mem _ hy)) (hstep s x hx h)⟩
    split
    · exact hstep s _ (hto _ _ hx) h
    · exact hstep s _ (hti _ hx) h
    · trivial

/-- a program of calls on staging names: every crash state, and the end, looks like the start -/
theorem allCrash_of_tempOnly (P : DirFS V → Prop) (hP : ∀ s s', VisEq s s' → P s → P s')
    (s : DirFS V) (p : List (DSys V)) (hp : ∀ x ∈ p, TempOnly x) (hn : (keys s).Nodup) (h : P s) :
    AllCrash P s p ∧ VisEq (drun s p) s := by
  have := allCrash_of_inv (fun c => (keys c).Nodup ∧ VisEq c s) TempOnly
    (fun c x hx hc => ⟨nodup_dstep c x hc.1, (visEq_tempOnly c x hx hc.1).trans hc.2⟩)
    (fun n _ h => by cases n <;> exact h) (fun n h => by cases n <;> exact h) s p hp ⟨hn, VisEq.refl s⟩
  exact ⟨this.mono fun c hc => hP _ _ hc.2.symm h, this.final.2⟩

end Klepto.Crash
