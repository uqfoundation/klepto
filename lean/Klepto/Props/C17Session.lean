import Klepto.Props.C20Pickle
/-!
# C17, continued — which keys are the same key in another interpreter

Another interpreter is, for the objects a key is made of, another assignment of addresses: values are
values, module-level singletons (`NULL`, `SENTINEL`, classes) are found by name, instances with the
default identity equality live wherever that process put them.  In the vocabulary of
`Props/C20Pickle.lean` a session change is a relocation `ρ` - about which NOTHING is known, not even
injectivity.  A key that contains an identity-compared instance is another key in another session
(`C17_instance_keys_are_not`): that is the reason the property speaks of "argument values", and why
default-`repr` objects in string keys are outside it.
-/
namespace Klepto.C17
open Klepto.C20

/-- **keys of values are session-independent**: whatever the other process's addresses are -/
theorem C17_value_keys_same_in_every_session (ρ : Nat → Nat) (k : PKey) (h : valueOnly k = true) :
    relocKey ρ k = k := by
  induction k with
  | nil => rfl
  | cons a k ih =>
    cases a with
    | inst _ => cases h
    | _ => exact congrArg (_ :: ·) (ih h)

/-- hence an archive written by one session answers the same calls in the next: the key the next
session computes finds the entry (hypothesis `hk` of `C17_second_session`) -/
theorem C17_archived_entry_found {V : Type} (ρ : Nat → Nat) (a : List (PKey × V)) (k : PKey) (v : V)
    (h : valueOnly k = true) (hk : AMap.get? a k = some v) : AMap.get? a (relocKey ρ k) = some v := by
  rw [C17_value_keys_same_in_every_session ρ k h]; exact hk

/-- the hypothesis is needed: a key holding an identity-compared instance is another key elsewhere -/
theorem C17_instance_keys_are_not : ∃ (ρ : Nat → Nat) (k : PKey), relocKey ρ k ≠ k :=
  ⟨(· + 1), [.inst 0], by decide⟩

example : valueOnly [.atom 7, .glob 0, .atom 8, .atom 1] = true := by decide

end Klepto.C17
