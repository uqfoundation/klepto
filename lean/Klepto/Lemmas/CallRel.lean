import Klepto.Lemmas.Retr
/-! What a call of a caching decorator does to the cache: at most one insertion (a value loaded from the
archive, or a freshly computed one for a key the archive does not have), followed by moves from memory to the
archive (`callCached_rel`). -/
namespace Klepto
open AMap
variable {K V : Type} [DecidableEq K]

/-- the value returned by a call that does not insert is the resident one -/
def RetResident (s : St K V) (ci : CallIn K V) (o : Out V) : Prop :=
  ∀ k v n, ci.key = .ok k → o = .ret v n → get? s.c.mem k = some v

/-- the value returned by a call that inserts `v` is `v` -/
def RetIs (o : Out V) (v : V) : Prop := ∀ v' n, o = .ret v' n → v' = v

theorem retIs_finish (cfg : Cfg) (s2 : St K V) (k : K) (v : V) (n : Nat) (vi : Option K) :
    RetIs (finish cfg s2 k v n vi).2 v := by
  intro v' n' ho
  rcases finish_out cfg s2 k v n vi with h | h <;> rw [h] at ho <;> cases ho; rfl

/-- **a call does not reach the tail** - then it leaves the cache alone and what it returns is resident - **or it
inserts the entry of the call and is the tail** (`fin`: M3's `finish cfg`, M3F's `finishF r cfg`).  Last clause of the
first alternative: a call that inserts nothing although the function would have returned was a hit. -/
theorem callCachedWith_split (cfg : Cfg) (s : St K V) (ci : CallIn K V) :
    (∃ x, (∀ fin, callCachedWith fin cfg s ci = x) ∧ x.1.c = s.c ∧ RetResident s ci x.2 ∧
      ∀ k v, ci.key = .ok k → ci.fn = .ok v → (get? s.c.mem k).isSome = true) ∨
    ∃ s2 k v n, ci.key = .ok k ∧ Ins s.c s2.c k v ∧ (s.c.aget k = some v ∨ ci.fn = .ok v) ∧
      ∀ fin, callCachedWith fin cfg s ci = fin s2 k v n ci.victim := by
  refine callCachedWith_cases (motive := fun f => (∃ x, (∀ fin, f fin = x) ∧ x.1.c = s.c ∧ RetResident s ci x.2 ∧
      ∀ k v, ci.key = .ok k → ci.fn = .ok v → (get? s.c.mem k).isSome = true) ∨
    ∃ s2 k v n, ci.key = .ok k ∧ Ins s.c s2.c k v ∧ (s.c.aget k = some v ∨ ci.fn = .ok v) ∧
      ∀ fin, f fin = fin s2 k v n ci.victim) cfg s ci ?_ ?_ ?_ ?_ ?_
  · intro e hk
    have hno : ∀ k, ci.key ≠ .ok k := fun k h => by rcases hk with hk | hk <;> cases hk.symm.trans h
    exact Or.inl ⟨_, fun _ => rfl, keyFail_c .., fun k _ _ h _ => absurd h (hno k), fun k _ h _ => absurd h (hno k)⟩
  · intro k v hk hm
    exact Or.inl ⟨_, fun _ => rfl, hitStep_c .., fun k' v' n h ho => (by cases hk.symm.trans h; cases ho; exact hm),
      fun k' v' h _ => (by cases hk.symm.trans h; exact hm ▸ rfl)⟩
  · intro k v hk hm ha
    exact Or.inr ⟨_, k, v, 0, hk, by simpa using ins_load s.c k v hm ha, Or.inl ha, fun _ => rfl⟩
  · intro k e _ _ _ hf
    exact Or.inl ⟨_, fun _ => rfl, rfl, fun _ _ _ _ ho => (nomatch ho), fun _ _ _ h => nomatch hf.symm.trans h⟩
  · intro k v hk hm ha hf
    exact Or.inr ⟨_, k, v, 1, hk, by simpa using ins_miss s.c k v hm ha, Or.inr hf, fun _ => rfl⟩

/-- **what a call of a caching decorator does to the cache** -/
theorem callCached_rel (cfg : Cfg) (s : St K V) (ci : CallIn K V) (hn : (keys s.c.mem).Nodup) :
    ∃ c2, ((c2 = s.c ∧ RetResident s ci (callCached cfg s ci).2 ∧
          (∀ k v, ci.key = .ok k → ci.fn = .ok v → (get? s.c.mem k).isSome = true)) ∨
        ∃ k v, ci.key = .ok k ∧ Ins s.c c2 k v ∧ RetIs (callCached cfg s ci).2 v ∧
          (s.c.aget k = some v ∨ ci.fn = .ok v)) ∧
      MoveRel c2 (callCached cfg s ci).1.c ∧
      (s.c.archived = true → Leaves c2 (callCached cfg s ci).1.c) := by
  rw [callCached_eq_with]
  rcases callCachedWith_split cfg s ci with ⟨x, hx, hc, hr, hres⟩ | ⟨s2, k, v, n, hk, hins, hsrc, hx⟩
  · rw [hx, hc]; exact ⟨s.c, Or.inl ⟨rfl, hr, hres⟩, MoveRel.refl _, fun _ => Leaves.refl _⟩
  · rw [hx]
    have hm := moved_finish cfg s2 k v n ci.victim (hins.nodup hn)
    exact ⟨s2.c, Or.inr ⟨k, v, hk, hins, retIs_finish _ _ _ _ _ _, hsrc⟩, hm.rel,
      fun ha => hm.leaves (hins.archived.trans ha)⟩

theorem archNodup_callCached (cfg : Cfg) (s : St K V) (ci : CallIn K V) (hn : (keys s.c.mem).Nodup)
    (h : ArchNodup s.c) : ArchNodup (callCached cfg s ci).1.c := by
  rw [callCached_eq_with]
  rcases callCachedWith_split cfg s ci with ⟨x, hx, hc, _, _⟩ | ⟨s2, k, v, n, _, hins, _, hx⟩ <;> rw [hx]
  · rw [hc]; exact h
  · exact (moved_finish cfg s2 k v n ci.victim (hins.nodup hn)).archNodup (archNodup_of_arch_eq h hins.arch)

end Klepto
