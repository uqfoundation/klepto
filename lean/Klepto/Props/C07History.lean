import Klepto.Props.C02
/-!
# C07 at the level of whole histories

`Props/C07.lean` states the property for one call.  Its second sentence - "at every moment each result
ever computed and not explicitly cleared is retrievable from memory or the archive" - is a statement
about histories; it follows by induction from the one-step theorems (`keeps_run`: `Sound` and
`ArchNodup` are kept by every quiet operation; the statements carry the stronger `C02.Inv`).
Histories are *quiet* (`C02.Quiet`): calls (any arguments, any evictions and purges), `dump`/`load`
with or without keys, lookups, `info` - everything except the operations after which the property
itself allows a loss (`clear`, detaching or replacing the archive, editing it from outside).
-/
namespace Klepto.C07
open AMap C02
variable {K V : Type} [DecidableEq K]

theorem keeps_run (cfg : Cfg) (ops : List (Op K V)) (s : St K V) (hno : cfg.algo ≠ .no)
    (hS : Sound s.c) (han : ArchNodup s.c) (hq : ∀ op ∈ ops, Quiet op = true) :
    Keeps s.c (run cfg s ops).1.c ∧ ArchNodup (run cfg s ops).1.c :=
  run_induction (P := fun s' => Keeps s.c s'.c ∧ ArchNodup s'.c) ops
    (fun s' h op ho =>
      have h1 := keeps_step_quiet cfg s' op hno h.1.1 h.2 (hq op ho)
      ⟨h.1.trans h1.1, h1.2⟩)
    s ⟨Keeps.refl hS, han⟩

/-- **nothing retrievable is ever lost** over a quiet history -/
theorem C07_history (cfg : Cfg) (ops : List (Op K V)) (s : St K V)
    (hno : cfg.algo ≠ .no) (hmp : MruNoPurge cfg) (hI : Inv cfg s) (hq : ∀ op ∈ ops, Quiet op = true)
    (j : K) (w : V) (h : retr s.c j = some w) : retr (run cfg s ops).1.c j = some w :=
  (keeps_run cfg ops s hno hI.sound hI.archNodup hq).1.2 j w h

/-- **every result ever returned is still there at the end**: take any quiet history, any call in
it that returned `v` for key `k` (a hit, a load or a fresh evaluation - whatever evictions and purges
came before and come after): at the end `k` is retrievable, from memory or from the archive, with
the value `v` -/
theorem C07_every_result_kept (cfg : Cfg) (pre post : List (Op K V)) (s : St K V) (ci : CallIn K V)
    (k : K) (v : V) (n : Nat)
    (hno : cfg.algo ≠ .no) (hmp : MruNoPurge cfg) (hI : Inv cfg s)
    (hq1 : ∀ op ∈ pre, Quiet op = true) (hq2 : ∀ op ∈ post, Quiet op = true)
    (hk : ci.key = .ok k) (ho : (call cfg (run cfg s pre).1 ci).2 = .ret v n) :
    retr (run cfg s (pre ++ .call ci :: post)).1.c k = some v := by
  rw [run_append]
  obtain ⟨⟨hS1, _⟩, han1⟩ := keeps_run cfg pre s hno hI.sound hI.archNodup hq1
  generalize (run cfg s pre).1 = s1 at hS1 han1 ho
  simp only [run]
  have h1 := keeps_step_quiet cfg s1 (.call ci) hno hS1 han1 rfl
  refine (keeps_run cfg post _ hno h1.1.1 h1.2 hq2).1.2 k v ?_
  show retr (call cfg s1 ci).1.c k = some v
  rw [call_eq_callCached hno] at ho ⊢
  exact C07_result_retained cfg s1 ci k v n hS1.nodup hS1.archived hk ho

/-- a new session over any archive without duplicate keys meets the invariants: the theorems above
apply to every history that starts from `D(cache=archive)(f)` -/
theorem inv_new_session (cfg : Cfg) (a : List (K × V)) (ha : (keys a).Nodup) :
    Inv cfg (St.init { mem := [], arch := some a, swap := none }) :=
  have h := sound_new_session a ha
  ⟨wf_init cfg _ h.1.nodup, rfl, h.1.agree, h.2⟩

section Examples
def lru1' : Cfg := { algo := .lru, safe := false, maxsize := 1, purge := false }
def mk' (k v : Nat) : Op Nat Nat := .call { key := .ok k, fn := .ok v, victim := none }
def c0' : Cache Nat Nat := { mem := [], arch := some [], swap := none }
/-- the hypotheses are met by the empty archived cache, and the conclusion is not vacuous: after three
evictions the first result is (only) in the archive -/
example : retr (run lru1' (St.init c0') [mk' 1 10, mk' 2 20, mk' 3 30, .dumpAll, mk' 4 40]).1.c 1 = some 10 := by decide
example : get? (run lru1' (St.init c0') [mk' 1 10, mk' 2 20, mk' 3 30, .dumpAll, mk' 4 40]).1.c.mem 1 = none := by decide
end Examples

end Klepto.C07
