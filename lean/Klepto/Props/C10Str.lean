import Klepto.Model.PKey
/-!
# C10 and the `str` encoder

`C10_encoded` lifts key discrimination through any *injective* encoder.  `stringmap`'s encoder is
Python's `str`, which is injective on tuples of atoms (each element is printed with `repr`) but not
on a bare value: `str(10) = str('10')`.  A flat, untyped key is a bare value exactly when the call
has one positional argument and nothing named (1-tuple unwrapping, `keymaps.py:198`), which is where
`stringmap` conflates `f(10)` with `f('10')` (finding F40, replayed by suite `keys`).
-/
namespace Klepto.C10
open Klepto.Backend

/-- the encoder of `stringmap` is not injective on unwrapped one-argument keys -/
theorem C10_str_scalar_collision :
    (PKey.atom (.int 10)).pyStr = (PKey.atom (.str "10")).pyStr ∧ PKey.atom (.int 10) ≠ PKey.atom (.str "10") := by
  decide

/-- but it does separate them as soon as the key is a tuple (`repr` of the elements) -/
theorem C10_str_tuple_separates :
    (PKey.tup [.int 10]).pyStr ≠ (PKey.tup [.str "10"]).pyStr ∧
    (PKey.tup [.str "x", .int 10]).pyStr ≠ (PKey.tup [.str "x", .str "10"]).pyStr := by
  decide

end Klepto.C10
