import Klepto.Props.C09
import Klepto.Props.C02
/-!
# C17 — Keys are stable across interpreter sessions

In the model a key is a function of (signature, ignore specification, keymap configuration, call)
— there is simply no other input.  To make that statement non-vacuous the per-process inputs a
Python process *could* leak into a key are made explicit: the hash seed (only the builtin `hash`
reads it) and an opaque process state (addresses, interned strings, import order: nothing reads it).
The theorems are thin — true by construction of the model — and the property is decided mainly by
suite `session` (fresh interpreters, different `PYTHONHASHSEED`, permuted keyword order, then a
writer session followed by a reader session over file / dir / sqlite archives).
-/
namespace Klepto.C17
open Klepto.Keys Klepto.AMap
variable {Val : Type} [DecidableEq Val]

inductive Enc
  | raw                      -- `keymap`: the tuple itself
  | str                      -- `stringmap`: `str(key)`
  | pickle                   -- `picklemap`: `repr(key)` / `dumps(key)`
  | digest (alg : String)    -- `hashmap(algorithm=alg)`: digest of `repr(key)`
  | builtinHash              -- `hashmap()` with Python's `hash`: randomised per process

structure Proc where
  hashSeed : Nat             -- PYTHONHASHSEED
  state : Nat                -- everything else that differs between interpreters

/-- what a session computes for a call: `K` is the encoded key type, the encoders are parameters -/
def sessionKey {K : Type} (reprOf : FlatKey Val → K) (digestOf : String → FlatKey Val → K)
    (pyHash : Nat → FlatKey Val → K) (enc : Enc) (p : Proc) (key : FlatKey Val) : K :=
  match enc with
  | .raw => reprOf key
  | .str => reprOf key
  | .pickle => reprOf key
  | .digest a => digestOf a key
  | .builtinHash => pyHash p.hashSeed key

/-- **noninterference**: for the raw, string, pickle and named-algorithm hash keymaps the key of a
call is the same in every process — whatever the hash seed and the process state -/
theorem C17_noninterference {K : Type} (reprOf : FlatKey Val → K) (digestOf : String → FlatKey Val → K)
    (pyHash : Nat → FlatKey Val → K) (enc : Enc) (h : enc ≠ .builtinHash) (p₁ p₂ : Proc) (key : FlatKey Val) :
    sessionKey reprOf digestOf pyHash enc p₁ key = sessionKey reprOf digestOf pyHash enc p₂ key := by
  cases enc with
  | builtinHash => exact absurd rfl h
  | _ => rfl

/-- … and independent of keyword-argument order (flat keymaps): `C09_flat` -/
theorem C17_kw_order (k : Consts Val) (self : Val) (f : Func Val) (c₁ c₂ : PCall Val) (b : Binding Val)
    (km : KM Val) (le : Val → Val → Bool) (tyOf : Val → Val) (fast : Val → Bool)
    (hpl : Plain f) (hwf : (names f.pos ++ names f.kwonly).Nodup) (hle : TotalOrder le)
    (hk₁ : (keys c₁.kwds).Nodup) (hk₂ : (keys c₂.kwds).Nodup)
    (hb₁ : bind self f c₁ = some b) (hb₂ : bind self f c₂ = some b) :
    encodeFlat km le tyOf fast (keygen k f [] c₁).1 (keygen k f [] c₁).2 =
    encodeFlat km le tyOf fast (keygen k f [] c₂).1 (keygen k f [] c₂).2 :=
  C09.C09_flat k self f c₁ c₂ b km le tyOf fast hpl hwf hle hk₁ hk₂ hb₁ hb₂

/-- the builtin `hash` is outside the property: it does depend on the seed -/
example : ∃ (pyHash : Nat → FlatKey Nat → Nat) (p₁ p₂ : Proc),
    sessionKey (fun _ => 0) (fun _ _ => 0) pyHash .builtinHash p₁ (.tup [1]) ≠
    sessionKey (fun _ => 0) (fun _ _ => 0) pyHash .builtinHash p₂ (.tup [1]) :=
  ⟨fun s _ => s, ⟨0, 0⟩, ⟨1, 0⟩, by decide⟩

/-- **results archived in one session are loads, not misses, in a later one**: a later session is
a fresh wrapper state over the archive the first one left behind (`C02_second_session`); with
stable keys every archived key is found -/
theorem C17_second_session {K V : Type} [DecidableEq K] (cfg : Cfg) (a : List (K × V)) (ops : List (Op K V)) (k : K) (w : V)
    (hno : cfg.algo ≠ .no) (hmp : MruNoPurge cfg) (ha : (AMap.keys a).Nodup)
    (hq : ∀ op ∈ ops, C02.Quiet op = true) (hk : AMap.get? a k = some w) :
    C02.NoEval cfg k (St.init { mem := [], arch := some a, swap := none }) ops :=
  C02.C02_second_session cfg a ops k w hno hmp ha hq hk

end Klepto.C17
