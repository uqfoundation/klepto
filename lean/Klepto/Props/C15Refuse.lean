import Klepto.Props.C07Refuse
import Klepto.Props.C15
/-!
# C15 when the archive refuses a write-back (model M3F)

The counters of a call over a refusing archive move exactly as in M3 (`C15_refused_step_counts`): by the
classified event - hit, load or evaluation.  What fails is the last clause of C15, "hit+miss+load equals the
number of completed calls": a refused call has evaluated the function, stored and counted the result and
then raises out of the `# purge cache` block (`C15_refused_counted_not_completed`) - the same shape as `mru`'s
IndexError (F2), part of finding F57.  `C15_refused_completed_iff_counted` is the clause with exactly that
outcome excluded.
-/
namespace Klepto.C15
variable {K V : Type} [DecidableEq K]

theorem finishF_stats (r : Refuse V) (cfg : Cfg) (s2 : St K V) (k : K) (v : V) (n : Nat) (vi : Option K) :
    (finishF r cfg s2 k v n vi).1.stats = s2.stats := by
  rcases finishF_cases r cfg s2 k v n vi with h | ⟨s', hst, h⟩ <;> rw [h]
  · exact finish_stats cfg s2 k v n vi
  · exact hst.stats

theorem callCachedF_stats (r : Refuse V) (cfg : Cfg) (s : St K V) (ci : CallIn K V) :
    (callCachedF r cfg s ci).1.stats = (callCached cfg s ci).1.stats :=
  callCachedF_lift r cfg s ci (R := fun x y => x.1.stats = y.1.stats) (fun _ => rfl)
    fun s2 k v n => by rw [finishF_stats, finish_stats]

/-- **counters move by exactly the classified event, refused write-back or not** (five caching algorithms) -/
theorem C15_refused_step_counts (r : Refuse V) (cfg : Cfg) (hno : cfg.algo ≠ .no) (s : St K V) (ci : CallIn K V) :
    (callCachedF r cfg s ci).1.stats = add3 s.stats (delta (classify cfg s ci)) := by
  rw [callCachedF_stats, ← call_eq_callCached hno]
  exact C15_step_counts cfg s ci

/-- **a call is counted iff it completes - unless it ends in `mru`'s IndexError (F2) or in the archive's
exception (F57)**: every other outcome is M3's -/
theorem C15_refused_completed_iff_counted (r : Refuse V) (cfg : Cfg) (hno : cfg.algo ≠ .no) (s : St K V) (ci : CallIn K V)
    (hne : (callCachedF r cfg s ci).2.isIndexError = false)
    (hnr : ¬ ∃ n, (callCachedF r cfg s ci).2 = .raised r.exc n) :
    Out.completed (callCachedF r cfg s ci).2 = true ↔ classify cfg s ci ≠ .nothing := by
  rw [C05.C05_refused_only r cfg s ci hnr, ← call_eq_callCached hno] at hne ⊢
  exact C15_completed_iff_counted cfg s ci hne

section Examples
open C07
/-- the excluded outcome exists: the second call evaluates, is counted as a miss - and raises -/
theorem C15_refused_counted_not_completed :
    (runF r99 lruF (St.init cF) [.call (mkF 1 99), .call (mkF 2 20)]).2 = [.ret 99 1, .raised .typeError 1] ∧
    (runF r99 lruF (St.init cF) [.call (mkF 1 99), .call (mkF 2 20)]).1.stats = (0, 2, 0) := by decide
end Examples

end Klepto.C15
