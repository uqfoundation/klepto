import Lean.Meta.Tactic.Simp.RegisterCommand

/-- Equivariance lemmas, oriented outward: `f (x.rename φ ψ) (φ k) = (f x k).rename φ ψ`.  Used as `simp only [f, eqv, hφ]`;
`hφ : Inj φ` discharges the side conditions.  The set also holds the projections of `rename` and, oriented towards
`rename`, its constructor forms (`rename_mk`, `rename_ite`, `map_append_singleton`, …): an updated record of renamed
fields is folded back into a renamed record, so that the lemma of the enclosing function applies. -/
register_simp_attr eqv
