import Klepto.Props.C02
import Klepto.Props.C01Bridge
import Klepto.Props.C09
/-!
# C02 end to end: a call spelled differently is not evaluated again

C02's theorems count evaluations per *key*.  C09 says that calls CPython binds identically have
one key, so the count is per *call up to spelling*: after a successful evaluation of `f(1, 2)`,
`f(1, y=2)` and `f(y=2, x=1)` find the stored result (`C02_respelled_not_reevaluated`).
-/
namespace Klepto.C02
open Klepto.Keys Klepto.C01

variable {Val V : Type} [DecidableEq Val]

/-- **compute once, whatever the spelling**: right after a call `c₁` was evaluated successfully, a call `c₂` that
CPython binds to the same values is answered without evaluating the function (all caching decorators). -/
theorem C02_respelled_not_reevaluated (k : Consts Val) (self : Val) (f : Func Val)
    (km : KM Val) (le : Val → Val → Bool) (tyOf : Val → Val) (fast : Val → Bool)
    (hpl : Plain f) (hwf : (names f.pos ++ names f.kwonly).Nodup) (hle : TotalOrder le)
    (c₁ c₂ : PCall Val) (b : Binding Val) (h₁ : ValidCall self f c₁ b) (h₂ : ValidCall self f c₂ b)
    (cfg : Cfg) (s : St (FlatKey Val) V) (ci₁ ci₂ : CallIn (FlatKey Val) V) (v : V)
    (hno : cfg.algo ≠ .no) (hI : Inv cfg s)
    (hk₁ : ci₁.key = .ok (keyOf k f km le tyOf fast c₁)) (hf₁ : ci₁.fn = .ok v)
    (he : evalsOf (call cfg s ci₁).2 = 1)
    (hk₂ : ci₂.key = .ok (keyOf k f km le tyOf fast c₂)) :
    evalsOf (call cfg (call cfg s ci₁).1 ci₂).2 = 0 := by
  have hkey : keyOf k f km le tyOf fast c₁ = keyOf k f km le tyOf fast c₂ :=
    C09.C09_flat k self f c₁ c₂ b km le tyOf fast hpl hwf hle h₁.2 h₂.2 h₁.1 h₂.1
  have hr := C02_after_eval_retrievable cfg s ci₁ _ v hno hI.wf.memNodup hI.archived hk₁ hf₁ he
  rw [C02_eval_iff cfg _ ci₂ _ hk₂, ← hkey]
  have : Retrievable (call cfg s ci₁).1.c (keyOf k f km le tyOf fast c₁) = true := by
    rw [retrievable_iff_retr, hr]; rfl
  simp [this]

end Klepto.C02
