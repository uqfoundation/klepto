import Klepto.Model.AMap
import Klepto.Model.Cache
import Klepto.Model.Wrapper
import Klepto.Model.WrapperFail
import Klepto.Model.Keys
import Klepto.Model.Validate
import Klepto.Model.Round
import Klepto.Model.Backend
import Klepto.Model.PKey
import Klepto.Model.FS
import Klepto.Model.Sched
import Klepto.Lemmas.AMap
import Klepto.Lemmas.MapKV
import Klepto.Lemmas.Basic
import Klepto.Lemmas.Evict
import Klepto.Lemmas.Retr
import Klepto.Lemmas.Lru
import Klepto.Lemmas.WF
import Klepto.Lemmas.CallRel
import Klepto.Lemmas.EqvAttr
import Klepto.Lemmas.Equivariant
import Klepto.Lemmas.Bind
import Klepto.Lemmas.Keygen
import Klepto.Lemmas.Sorted
import Klepto.Lemmas.DictSpec
import Klepto.Lemmas.BackendSql
import Klepto.Lemmas.BackendDir
import Klepto.Lemmas.FS
import Klepto.Lemmas.Sched
import Klepto.Props.C01
import Klepto.Props.C01Bridge
import Klepto.Props.C02
import Klepto.Props.C02Bridge
import Klepto.Props.C02Refuse
import Klepto.Props.C03
import Klepto.Props.C04
import Klepto.Props.C05
import Klepto.Props.C06
import Klepto.Props.C07
import Klepto.Props.C07History
import Klepto.Props.C07Refuse
import Klepto.Props.C08
import Klepto.Props.C09
import Klepto.Props.C09Tol
import Klepto.Props.C10
import Klepto.Props.C10Sentinel
import Klepto.Props.C10Str
import Klepto.Props.C11
import Klepto.Props.C12
import Klepto.Props.C12Bridge
import Klepto.Props.C13
import Klepto.Props.C13Again
import Klepto.Props.C14
import Klepto.Props.C14Views
import Klepto.Props.C15
import Klepto.Props.C15Refuse
import Klepto.Props.C16
import Klepto.Props.C17
import Klepto.Props.C17Session
import Klepto.Props.C18
import Klepto.Props.C19
import Klepto.Props.C19Bound
import Klepto.Props.C20
import Klepto.Props.C20Pickle
import Klepto.Props.KeysBound
import Klepto.Props.PosOnly
import Klepto.Props.Reentrant
import Klepto.Props.Refuse
import Klepto.Props.Reuse
import Klepto.Audit
import Klepto.Driver.Main
