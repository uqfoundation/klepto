import Klepto.Model.AMap
import Klepto.Lemmas.EqvAttr
/-! Association lists under a renaming `φ` of keys and a map `ψ` of values (`mapKV`): for injective `φ` every operation of
M1 commutes with it.  The base of the simp set `eqv`. -/
namespace Klepto
open AMap
set_option linter.unusedSectionVars false
variable {K K' V V' : Type} [DecidableEq K] [DecidableEq K'] {φ : K → K'} {ψ : V → V'}

def Inj (φ : K → K') : Prop := ∀ a b, φ a = φ b → a = b

theorem Inj.eq_iff (hφ : Inj φ) {a b : K} : φ a = φ b ↔ a = b := ⟨hφ a b, congrArg φ⟩

theorem foldl_map_hom {α α' β β' : Type} (g : α → α') (h : β → β') {f : β → α → β} {f' : β' → α' → β'}
    (H : ∀ b a, f' (h b) (g a) = h (f b a)) (l : List α) (b : β) :
    (l.map g).foldl f' (h b) = h (l.foldl f b) := by
  rw [List.foldl_map]; exact List.foldl_hom h H

theorem mem_map_inj (hφ : Inj φ) (k : K) (l : List K) : φ k ∈ l.map φ ↔ k ∈ l :=
  ⟨fun h => by obtain ⟨a, ha, e⟩ := List.mem_map.mp h; exact hφ _ _ e ▸ ha, List.mem_map_of_mem⟩

@[eqv] theorem erase_map_inj (hφ : Inj φ) (l : List K) (k : K) : (l.map φ).erase (φ k) = (l.erase k).map φ := by
  induction l with
  | nil => rfl
  | cons a l ih => simp only [List.map_cons, List.erase_cons, beq_iff_eq, hφ.eq_iff, ih]; split <;> rfl

@[eqv] theorem map_append_singleton (l : List K) (k : K) : l.map φ ++ [φ k] = (l ++ [k]).map φ := by
  rw [List.map_append]; rfl

attribute [eqv] List.length_map List.getLast?_map
attribute [eqv ←] List.map_dropLast

def mapKV (φ : K → K') (ψ : V → V') (m : List (K × V)) : List (K' × V') := m.map (fun p => (φ p.1, ψ p.2))

namespace AMap

@[simp] theorem mapKV_nil : mapKV φ ψ ([] : List (K × V)) = [] := rfl
@[simp] theorem mapKV_cons (k : K) (v : V) (m : List (K × V)) :
    mapKV φ ψ ((k, v) :: m) = (φ k, ψ v) :: mapKV φ ψ m := rfl
@[eqv] theorem length_mapKV (m : List (K × V)) : (mapKV φ ψ m).length = m.length := List.length_map _
theorem keys_mapKV (m : List (K × V)) : keys (mapKV φ ψ m) = (keys m).map φ := by
  unfold keys mapKV; rw [List.map_map, List.map_map]; rfl

@[eqv] theorem get?_mapKV (hφ : Inj φ) (m : List (K × V)) (k : K) :
    get? (mapKV φ ψ m) (φ k) = (get? m k).map ψ := by
  induction m with
  | nil => rfl
  | cons p m ih => obtain ⟨a, w⟩ := p; simp only [mapKV_cons, get?, hφ.eq_iff, ih]; split <;> rfl

@[eqv] theorem has_mapKV (hφ : Inj φ) (m : List (K × V)) (k : K) : has (mapKV φ ψ m) (φ k) = has m k := by
  simp [has, get?_mapKV hφ]

@[eqv] theorem put_mapKV (hφ : Inj φ) (m : List (K × V)) (k : K) (v : V) :
    put (mapKV φ ψ m) (φ k) (ψ v) = mapKV φ ψ (put m k v) := by
  induction m with
  | nil => rfl
  | cons p m ih => obtain ⟨a, w⟩ := p; simp only [mapKV_cons, put, hφ.eq_iff, ih]; split <;> rfl

@[eqv] theorem erase_mapKV (hφ : Inj φ) (m : List (K × V)) (k : K) :
    erase (mapKV φ ψ m) (φ k) = mapKV φ ψ (erase m k) := by
  induction m with
  | nil => rfl
  | cons p m ih => obtain ⟨a, w⟩ := p; simp only [mapKV_cons, erase, hφ.eq_iff, ih]; split <;> rfl

@[eqv] theorem update_mapKV (hφ : Inj φ) (m o : List (K × V)) :
    update (mapKV φ ψ m) (mapKV φ ψ o) = mapKV φ ψ (update m o) :=
  foldl_map_hom _ (mapKV φ ψ) (fun m p => put_mapKV hφ m p.1 p.2) o m

/-- `put_mapKV` at `ψ := id` (the counts `rc`, `uc` are renamed in their keys only): `simp` does not see `x` as `id x` -/
@[eqv] theorem put_mapKV_id {N : Type} (hφ : Inj φ) (m : List (K × N)) (k : K) (x : N) :
    put (mapKV φ id m) (φ k) x = mapKV φ id (put m k x) := put_mapKV (ψ := id) hφ m k x

@[eqv] theorem map_pair_map {N : Type} (l : List K) (x : N) :
    (l.map φ).map (fun k => (k, x)) = mapKV φ id (l.map fun k => (k, x)) := by
  unfold mapKV; rw [List.map_map, List.map_map]; rfl

end AMap

end Klepto
