import Klepto.Lemmas.Sorted
import Klepto.Lemmas.Keygen
/-!
# C09 — Key canonicalisation: equivalent calls map to one key

Model M4.  `bind` is the specification (CPython's argument binding); `keygen` is `_keygen`;
`encodeFlat` / `encrypt` are `keymap.encode` / `keymap.encrypt` before the encoder.  The encoder
(`str`, `repr`, pickle, a named digest) is a function of the structured key, so equal structured
keys give equal encoded keys for every keymap type (`C09_encoded`).
-/
namespace Klepto.C09
open Klepto.Keys Klepto.AMap
set_option linter.unusedSectionVars false
variable {Val : Type} [DecidableEq Val]

/-- **C09, flat keymaps** (raw / string / pickle / hash; typed or not; with or without a
sentinel): two calls that CPython binds identically — positional or keyword spelling, any keyword
order, defaults spelled out or omitted — produce the *same* flat key. -/
theorem C09_flat (k : Consts Val) (self : Val) (f : Func Val) (c₁ c₂ : PCall Val) (b : Binding Val)
    (km : KM Val) (le : Val → Val → Bool) (tyOf : Val → Val) (fast : Val → Bool)
    (hpl : Plain f) (hwf : (names f.pos ++ names f.kwonly).Nodup) (hle : TotalOrder le)
    (hk₁ : (keys c₁.kwds).Nodup) (hk₂ : (keys c₂.kwds).Nodup)
    (hb₁ : bind self f c₁ = some b) (hb₂ : bind self f c₂ = some b) :
    encodeFlat km le tyOf fast (keygen k f [] c₁).1 (keygen k f [] c₁).2 =
    encodeFlat km le tyOf fast (keygen k f [] c₂).1 (keygen k f [] c₂).2 := by
  obtain ⟨ha₁, hm₁⟩ := keygen_eq_bind k self f c₁ b hpl hwf hk₁ hb₁
  obtain ⟨ha₂, hm₂⟩ := keygen_eq_bind k self f c₂ b hpl hwf hk₂ hb₂
  rw [ha₁, ← ha₂]
  exact encodeFlat_congr km le tyOf fast hle _ _ _ (keygen_nodup k f c₁ hpl hwf) (keygen_nodup k f c₂ hpl hwf)
    fun n => (hm₁ n).trans (hm₂ n).symm

/-- every encoder is a function of the structured key -/
theorem C09_encoded {Key : Type} (enc : FlatKey Val → Key) (k₁ k₂ : FlatKey Val) (h : k₁ = k₂) :
    enc k₁ = enc k₂ := by rw [h]

/-- Python equality of two non-flat raw keys `(args, kwds[, types])`: tuples elementwise, dicts
as maps -/
def NonFlatKey.pyEq (a b : NonFlatKey Val) : Prop :=
  a.args = b.args ∧ (∀ n, get? a.kwds n = get? b.kwds n) ∧ a.types = b.types

/-- **C09, non-flat raw keys** are equal *as Python values* -/
theorem C09_nonflat_raw (k : Consts Val) (self : Val) (f : Func Val) (c₁ c₂ : PCall Val) (b : Binding Val)
    (km : KM Val) (le : Val → Val → Bool) (tyOf : Val → Val)
    (hpl : Plain f) (hwf : (names f.pos ++ names f.kwonly).Nodup) (hle : TotalOrder le)
    (hk₁ : (keys c₁.kwds).Nodup) (hk₂ : (keys c₂.kwds).Nodup)
    (hb₁ : bind self f c₁ = some b) (hb₂ : bind self f c₂ = some b) :
    NonFlatKey.pyEq (encrypt km le tyOf (keygen k f [] c₁).1 (keygen k f [] c₁).2)
                    (encrypt km le tyOf (keygen k f [] c₂).1 (keygen k f [] c₂).2) := by
  obtain ⟨ha₁, hm₁⟩ := keygen_eq_bind k self f c₁ b hpl hwf hk₁ hb₁
  obtain ⟨ha₂, hm₂⟩ := keygen_eq_bind k self f c₂ b hpl hwf hk₂ hb₂
  have hmap : ∀ n, get? (keygen k f [] c₁).2 n = get? (keygen k f [] c₂).2 n := fun n => (hm₁ n).trans (hm₂ n).symm
  have hs := sorted_items_canonical le hle _ _ (keygen_nodup k f c₁ hpl hwf) (keygen_nodup k f c₂ hpl hwf) hmap
  exact ⟨ha₁.trans ha₂.symm, hmap, by simp only [encrypt, ha₁, ha₂, hs]⟩

/-- the full statement for *encoded* non-flat keys (`str`/`repr`/pickle of `(args, kwds)`): the
dict's insertion order would have to be the same -/
def C09_nonflat_statement (k : Consts Val) (self : Val) (f : Func Val) : Prop :=
  ∀ c₁ c₂ b, bind self f c₁ = some b → bind self f c₂ = some b →
    (keygen k f [] c₁).2 = (keygen k f [] c₂).2

section Examples
/-- objects: 0 = NULL, 1 = '*', 2 = '**', 10 = 'x', 11 = 'y', 20 = the value 1, 21 = the value 2 -/
def K0 : Consts Nat := { null := 0, star := 1, dstar := 2 }
def fxy : Func Nat := { pos := [⟨10, none⟩, ⟨11, some 21⟩], varargs := false, kwonly := [], varkw := false }
def km0 : KM Nat := { typed := false, flat := true, mark := none }
/-- `f(1, y=2)`, `f(x=1, y=2)`, `f(y=2, x=1)` and `f(1)` (default omitted) all bind `x=1, y=2` … -/
example : bind 99 fxy { args := [20], kwds := [(11, 21)] } = bind 99 fxy { args := [], kwds := [(11, 21), (10, 20)] } ∧
    bind 99 fxy { args := [20], kwds := [] } = bind 99 fxy { args := [], kwds := [(10, 20), (11, 21)] } := by decide
/-- … and get one flat key -/
example : (let r := keygen K0 fxy [] { args := [], kwds := [(11, 21), (10, 20)] }
           encodeFlat km0 (· ≤ ·) (fun _ => 5) (fun _ => false) r.1 r.2) =
          (let r := keygen K0 fxy [] { args := [20], kwds := [] }
           encodeFlat km0 (· ≤ ·) (fun _ => 5) (fun _ => false) r.1 r.2) := by decide
/-- **F11**: the non-flat key's dict order leaks the spelling: `f(1, y=2)` gives `{y, x}`,
`f(x=1, y=2)` gives `{x, y}` -/
example : ¬ C09_nonflat_statement K0 99 { fxy with pos := [⟨10, none⟩, ⟨11, none⟩] } := by
  intro h
  have := h { args := [20], kwds := [(11, 21)] } { args := [], kwds := [(10, 20), (11, 21)] }
    { named := [(10, 20), (11, 21)], extraPos := [], extraKw := [] } (by decide) (by decide)
  revert this; decide
end Examples

end Klepto.C09
