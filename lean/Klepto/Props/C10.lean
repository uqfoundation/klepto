import Klepto.Lemmas.Sorted
import Klepto.Lemmas.Keygen
/-!
# C10 — Key discrimination: different calls never share a key

Structured keys (before the encoder); the lift through an *injective* encoder is `C10_encoded`
(`repr` on the value universe, `str` on tuples only - `Props/C10Str.lean` -, pickle, a collision-free digest: assumptions of
DESIGN §7).
-/
namespace Klepto.C10
open Klepto.Keys Klepto.AMap
set_option linter.unusedSectionVars false
variable {Val : Type} [DecidableEq Val]

theorem flatten_length (l : List (Val × Val)) : (flatten l).length = 2 * l.length := by
  induction l with
  | nil => rfl
  | cons p l ih =>
    simp only [flatten, List.flatMap_cons, List.length_append, List.length_cons, List.length_nil] at ih ⊢
    omega

theorem flatten_inj (l₁ l₂ : List (Val × Val)) (h : flatten l₁ = flatten l₂) : l₁ = l₂ := by
  induction l₁ generalizing l₂ with
  | nil =>
    cases l₂ with
    | nil => rfl
    | cons q l₂ => cases h
  | cons p l₁ ih =>
    cases l₂ with
    | nil => cases h
    | cons q l₂ =>
      obtain ⟨a, b⟩ := p; obtain ⟨c, d⟩ := q
      simp only [flatten, List.flatMap_cons, List.cons_append, List.nil_append, List.cons.injEq] at h
      obtain ⟨h1, h2, h3⟩ := h
      rw [h1, h2, ih l₂ h3]

theorem sortedItems_length (le : Val → Val → Bool) (l : List (Val × Val)) : (sortedItems le l).length = l.length :=
  (isort_perm _ l).length_eq

def flatList : FlatKey Val → List Val
  | .tup l => l
  | .scalar v => [v]

theorem flatList_unwrap (tyOf : Val → Val) (fast : Val → Bool) (key : List Val) :
    flatList (match key with
      | [x] => if fast (tyOf x) then FlatKey.scalar x else FlatKey.tup key
      | _ => FlatKey.tup key) = key := by
  split
  · split <;> rfl
  · rfl

/-- the flat key of positionals `a` and sorted items `S`, as a list: the positionals, then (only with keywords) mark
and items, then (only when typed) mark, types of the positionals and (only with keywords) mark, types of the values -/
def keyList (km : KM Val) (tyOf : Val → Val) (a : List Val) (S : List (Val × Val)) : List Val :=
  if S = [] then a ++ (if km.typed then markL km ++ a.map tyOf else [])
  else a ++ (markL km ++ (flatten S ++
    (if km.typed then markL km ++ (a.map tyOf ++ (markL km ++ S.map (fun p => tyOf p.2))) else [])))

theorem flatList_encodeFlat (km : KM Val) (le : Val → Val → Bool) (tyOf : Val → Val) (fast : Val → Bool)
    (a : List Val) (kw : List (Val × Val)) :
    flatList (encodeFlat km le tyOf fast a kw) = keyList km tyOf a (sortedItems le kw) := by
  unfold encodeFlat keyList
  -- untyped, the 1-tuple unwrapping is undone by `flatList` (`.trans`, not `rw`: the `match` in `flatList_unwrap` is not
  -- the auxiliary matcher inside `encodeFlat`); typed, the two sides differ in the bracketing of `++` only
  cases kw with
  | nil =>
    rw [if_pos (show sortedItems le [] = [] from rfl)]
    cases km.typed
    · exact (flatList_unwrap tyOf fast a).trans (List.append_nil a).symm
    · exact List.append_assoc ..
  | cons p kw =>
    rw [if_neg (List.ne_nil_of_length_pos (by rw [sortedItems_length]; exact Nat.succ_pos _))]
    cases km.typed
    · refine (flatList_unwrap tyOf fast _).trans ?_
      simp only [List.isEmpty_cons, Bool.false_eq_true, if_false, List.append_nil, List.append_assoc]
    · simp only [List.isEmpty_cons, Bool.false_eq_true, if_false, if_true, flatList, List.append_assoc]

theorem keyList_inj_noargs (km : KM Val) (tyOf : Val → Val) (S₁ S₂ : List (Val × Val))
    (h : keyList km tyOf [] S₁ = keyList km tyOf [] S₂) : S₁ = S₂ := by
  unfold keyList at h
  simp only [List.nil_append, List.map_nil] at h
  cases ht : km.typed <;> simp only [ht, Bool.false_eq_true, if_false, if_true, List.append_nil] at h <;>
    cases S₁ <;> cases S₂ <;> simp only [reduceCtorEq, if_false, if_true] at h
  · rfl
  · cases List.append_eq_nil_iff.mp h.symm |>.2
  · cases List.append_eq_nil_iff.mp h |>.2
  · exact flatten_inj _ _ (List.append_cancel_left h)
  · rfl
  · cases (List.append_eq_nil_iff.mp (List.self_eq_append_right.mp h)).1
  · cases (List.append_eq_nil_iff.mp (List.self_eq_append_right.mp h.symm)).1
  · -- typed, with keywords on both sides: the length of the key grows with the number of items, so the two item lists
    -- end at the same place
    have h := List.append_cancel_left h
    refine flatten_inj _ _ (List.append_inj h ?_).1
    have := congrArg List.length h
    simp only [List.length_append, flatten_length, List.length_map, List.length_cons] at this ⊢
    omega

/-- **C10, flat keymaps, signature without `*args`**: the flat key determines the bound arguments —
untyped or typed, with or without a sentinel.  (Two calls that bind different values to some
parameter therefore never share a key.) -/
theorem C10_flat_noargs (km : KM Val) (le : Val → Val → Bool) (tyOf : Val → Val) (fast : Val → Bool)
    (kw₁ kw₂ : List (Val × Val)) (h₁ : (keys kw₁).Nodup) (h₂ : (keys kw₂).Nodup)
    (h : encodeFlat km le tyOf fast [] kw₁ = encodeFlat km le tyOf fast [] kw₂) :
    ∀ n, get? kw₁ n = get? kw₂ n := by
  have hl := congrArg flatList h
  rw [flatList_encodeFlat, flatList_encodeFlat] at hl
  exact get?_of_sortedItems_eq le _ _ h₁ h₂ (keyList_inj_noargs km tyOf _ _ hl)

/-- **C10 for calls**: a function without `*args`; two calls CPython accepts; if they bind
different values to some parameter (or extra keyword) their flat keys differ. -/
theorem C10_calls (k : Consts Val) (self : Val) (f : Func Val) (c₁ c₂ : PCall Val) (b₁ b₂ : Binding Val)
    (km : KM Val) (le : Val → Val → Bool) (tyOf : Val → Val) (fast : Val → Bool)
    (hpl : Plain f) (hwf : (names f.pos ++ names f.kwonly).Nodup) (hva : f.varargs = false)
    (hk₁ : (keys c₁.kwds).Nodup) (hk₂ : (keys c₂.kwds).Nodup)
    (hb₁ : bind self f c₁ = some b₁) (hb₂ : bind self f c₂ = some b₂)
    (n : Val) (hne : get? (b₁.named ++ b₁.extraKw) n ≠ get? (b₂.named ++ b₂.extraKw) n) :
    encodeFlat km le tyOf fast (keygen k f [] c₁).1 (keygen k f [] c₁).2 ≠
    encodeFlat km le tyOf fast (keygen k f [] c₂).1 (keygen k f [] c₂).2 := by
  obtain ⟨ha₁, hm₁⟩ := keygen_eq_bind k self f c₁ b₁ hpl hwf hk₁ hb₁
  obtain ⟨ha₂, hm₂⟩ := keygen_eq_bind k self f c₂ b₂ hpl hwf hk₂ hb₂
  intro heq
  rw [ha₁, ha₂, extraPos_nil self f c₁ b₁ hpl hva hk₁ hb₁, extraPos_nil self f c₂ b₂ hpl hva hk₂ hb₂] at heq
  have := C10_flat_noargs km le tyOf fast _ _ (keygen_nodup k f c₁ hpl hwf) (keygen_nodup k f c₂ hpl hwf) heq n
  exact hne ((hm₁ n).symm.trans (this.trans (hm₂ n)))

/-- non-flat keys keep `(args, kwds)` apart by construction -/
theorem C10_nonflat (km : KM Val) (le : Val → Val → Bool) (tyOf : Val → Val)
    (a₁ a₂ : List Val) (kw₁ kw₂ : List (Val × Val))
    (h : encrypt km le tyOf a₁ kw₁ = encrypt km le tyOf a₂ kw₂) : a₁ = a₂ ∧ kw₁ = kw₂ := by
  simp only [encrypt, NonFlatKey.mk.injEq] at h
  exact ⟨h.1, h.2.1⟩

/-- an injective encoder preserves discrimination -/
theorem C10_encoded {Key : Type} (enc : FlatKey Val → Key) (hinj : Function.Injective enc)
    (k₁ k₂ : FlatKey Val) (h : k₁ ≠ k₂) : enc k₁ ≠ enc k₂ := fun he => h (hinj he)

/-- **chained keymaps** (`inner + outer`): the inner keymap is handed the outer structured key as one
object; its own structured key determines that object — whatever its flat/typed/sentinel settings,
and whether or not the object is of a fast type — so chaining preserves discrimination (compose with
`C10_encoded` for the two encoders) -/
theorem C10_chain_inner_injective (km : KM Val) (le : Val → Val → Bool) (xty yty : Val) (fx fy : Bool) (x y : Val)
    (h : chainInner km le xty fx x = chainInner km le yty fy y) : x = y := by
  unfold chainInner at h
  split at h
  · -- flat: the object is the head of the key list
    have hl := congrArg flatList (Sum.inl.inj h)
    rw [flatList_encodeFlat, flatList_encodeFlat] at hl
    exact (List.cons.inj hl).1
  · exact (List.cons.inj (congrArg NonFlatKey.args (Sum.inr.inj h))).1

/-- … and canonicalisation (C09): calls with the same outer structured key have the same chained key -/
theorem C09_chain_congr (km : KM Val) (le : Val → Val → Bool) (xty : Val) (fx : Bool) (x y : Val) (h : x = y) :
    chainInner km le xty fx x = chainInner km le xty fx y := by rw [h]

section Examples
def K0 : Consts Nat := { null := 0, star := 1, dstar := 2 }
def fvar : Func Nat := { pos := [], varargs := true, kwonly := [], varkw := true }
def km0 : KM Nat := { typed := false, flat := true, mark := none }
/-- the excluded case (flat, `*args`, no sentinel): `f('a', 1)` and `f(a=1)` share `('a', 1)`
(10 = the string `'a'`, 20 = 1) -/
example : (let r := keygen K0 fvar [] { args := [10, 20], kwds := [] }
           encodeFlat km0 (· ≤ ·) (fun _ => 5) (fun _ => false) r.1 r.2) =
          (let r := keygen K0 fvar [] { args := [], kwds := [(10, 20)] }
           encodeFlat km0 (· ≤ ·) (fun _ => 5) (fun _ => false) r.1 r.2) := by decide
/-- with a sentinel (7) they differ -/
example : (let r := keygen K0 fvar [] { args := [10, 20], kwds := [] }
           encodeFlat { km0 with mark := some 7 } (· ≤ ·) (fun _ => 5) (fun _ => false) r.1 r.2) ≠
          (let r := keygen K0 fvar [] { args := [], kwds := [(10, 20)] }
           encodeFlat { km0 with mark := some 7 } (· ≤ ·) (fun _ => 5) (fun _ => false) r.1 r.2) := by decide
end Examples

end Klepto.C10
