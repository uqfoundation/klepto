import Klepto.Props.C09
import Klepto.Props.C10
import Klepto.Props.C19
/-!
# Positional-only parameters (PEP 570): where C09/C10/C19 stand

`bindPO` is CPython's binding for every signature; `bind` (used by the C09/C10/C19 theorems) is
its special case without positional-only parameters (`bindPO_eq_bind`).  The property theorems are
restated here over `bindPO` under exactly that guard, and the guard is shown to be necessary:
`klepto` reads `inspect.getfullargspec`, which lists positional-only parameters among `args`
without marking them, so a keyword that merely shares the name of such a parameter is taken for the
parameter — the witnesses below are replayed against the implementation (finding F38).
-/
namespace Klepto.PosOnly
open Klepto.AMap Klepto.Keys

variable {Val : Type}

theorem bindPosOnly_nil (args : List Val) : bindPosOnly ([] : List (Param Val)) args = some ([], args) := by
  cases args <;> rfl

variable [DecidableEq Val]

theorem bindPlainPO_eq (f : Func Val) (h : f.nposonly = 0) (args : List Val) (kwds : List (Val × Val)) :
    bindPlainPO f args kwds = bindPlain f args kwds := by
  obtain ⟨pos, va, ko, vk, pa, pk, bd, npo⟩ := f
  simp only at h
  subst h
  unfold bindPlainPO
  simp only [List.take_zero, List.drop_zero, bindPosOnly_nil]
  cases bindPlain { pos := pos, varargs := va, kwonly := ko, varkw := vk, pArgs := pa, pKwds := pk, bound := bd, nposonly := 0 } args kwds with
  | none => rfl
  | some b => cases b; simp

/-- without positional-only parameters the general specification is the one the theorems use -/
theorem bindPO_eq_bind (self : Val) (f : Func Val) (c : PCall Val) (h : f.nposonly = 0) :
    bindPO self f c = bind self f c := by
  unfold bindPO Keys.bind
  exact bindPlainPO_eq f h _ _

end Klepto.PosOnly

namespace Klepto.C09
open Klepto.AMap Klepto.Keys Klepto.PosOnly
variable {Val : Type} [DecidableEq Val]

/-- **C09 over the general specification**: identically bound calls of a function without
positional-only parameters get one flat key -/
theorem C09_flat_general (k : Consts Val) (self : Val) (f : Func Val) (c₁ c₂ : PCall Val) (b : Binding Val)
    (km : KM Val) (le : Val → Val → Bool) (tyOf : Val → Val) (fast : Val → Bool)
    (hpo : f.nposonly = 0)
    (hpl : Plain f) (hwf : (names f.pos ++ names f.kwonly).Nodup) (hle : TotalOrder le)
    (hk₁ : (keys c₁.kwds).Nodup) (hk₂ : (keys c₂.kwds).Nodup)
    (hb₁ : bindPO self f c₁ = some b) (hb₂ : bindPO self f c₂ = some b) :
    encodeFlat km le tyOf fast (keygen k f [] c₁).1 (keygen k f [] c₁).2 =
    encodeFlat km le tyOf fast (keygen k f [] c₂).1 (keygen k f [] c₂).2 := by
  rw [bindPO_eq_bind self f c₁ hpo] at hb₁
  rw [bindPO_eq_bind self f c₂ hpo] at hb₂
  exact C09_flat k self f c₁ c₂ b km le tyOf fast hpl hwf hle hk₁ hk₂ hb₁ hb₂

end Klepto.C09

namespace Klepto.C10
open Klepto.AMap Klepto.Keys Klepto.PosOnly
variable {Val : Type} [DecidableEq Val]

/-- **C10 over the general specification** -/
theorem C10_calls_general (k : Consts Val) (self : Val) (f : Func Val) (c₁ c₂ : PCall Val) (b₁ b₂ : Binding Val)
    (km : KM Val) (le : Val → Val → Bool) (tyOf : Val → Val) (fast : Val → Bool)
    (hpo : f.nposonly = 0)
    (hpl : Plain f) (hwf : (names f.pos ++ names f.kwonly).Nodup) (hva : f.varargs = false)
    (hk₁ : (keys c₁.kwds).Nodup) (hk₂ : (keys c₂.kwds).Nodup)
    (hb₁ : bindPO self f c₁ = some b₁) (hb₂ : bindPO self f c₂ = some b₂)
    (n : Val) (hne : get? (b₁.named ++ b₁.extraKw) n ≠ get? (b₂.named ++ b₂.extraKw) n) :
    encodeFlat km le tyOf fast (keygen k f [] c₁).1 (keygen k f [] c₁).2 ≠
    encodeFlat km le tyOf fast (keygen k f [] c₂).1 (keygen k f [] c₂).2 := by
  rw [bindPO_eq_bind self f c₁ hpo] at hb₁
  rw [bindPO_eq_bind self f c₂ hpo] at hb₂
  exact C10_calls k self f c₁ c₂ b₁ b₂ km le tyOf fast hpl hwf hva hk₁ hk₂ hb₁ hb₂ n hne

end Klepto.C10

namespace Klepto.C19
open Klepto.AMap Klepto.Keys Klepto.PosOnly
variable {Val : Type} [DecidableEq Val]

/-- **C19 over the general specification** -/
theorem C19_plain_general (self : Val) (f : Func Val) (c : PCall Val)
    (hpo : f.nposonly = 0)
    (hpl : Plain f) (hko : f.kwonly = []) (hnd : (names f.pos).Nodup) (hk : (keys c.kwds).Nodup) :
    validate f c = true ↔ (bindPO self f c).isSome = true := by
  rw [bindPO_eq_bind self f c hpo]
  exact C19_plain_partial self f c hpl hko hnd hk

end Klepto.C19

namespace Klepto.PosOnly
open Klepto.AMap Klepto.Keys

def K0 : Consts Nat := { null := 0, star := 1, dstar := 2 }
/-- `def p(x, /, **kw)` with names x = 10 -/
def p : Func Nat := { pos := [⟨10, none⟩], varargs := false, kwonly := [], varkw := true, nposonly := 1 }
def km0 : KM Nat := { typed := false, flat := true, mark := none }

end Klepto.PosOnly
namespace Klepto.C10
open Klepto.Keys Klepto.PosOnly
/-- `p(1, x=5)` and `p(1, x=6)` bind different values (`kw = {'x': 5}` vs `{'x': 6}`) but `_keygen` files
the positional 1 under `x`, overwriting the keyword: both calls get the key of `p(1)` — C10 fails, and
with it C01 (the second call is answered with the first one's result) -/
theorem C10_posonly_collision :
    bindPO 0 p { args := [21], kwds := [(10, 25)] } ≠ bindPO 0 p { args := [21], kwds := [(10, 26)] } ∧
    (bindPO 0 p { args := [21], kwds := [(10, 25)] }).isSome = true ∧
    keygen K0 p [] { args := [21], kwds := [(10, 25)] } = keygen K0 p [] { args := [21], kwds := [(10, 26)] } := by
  decide

end Klepto.C10
namespace Klepto.C19
open Klepto.Keys Klepto.PosOnly
/-- the same call is rejected by `validate` ("multiple values for keyword argument") although CPython accepts it — C19 -/
theorem C19_posonly_rejects_valid :
    (bindPO 0 p { args := [21], kwds := [(10, 25)] }).isSome = true ∧
    validate p { args := [21], kwds := [(10, 25)] } = false := by
  decide

def qpo : Func Nat := { pos := [⟨10, none⟩], varargs := false, kwonly := [], varkw := false, nposonly := 1 }
/-- and a call that passes a positional-only parameter by keyword is accepted by `validate` although
CPython rejects it (`def q(x, /)`, `q(x=1)`) -/
theorem C19_posonly_accepts_invalid :
    bindPO 0 qpo { args := [], kwds := [(10, 21)] } = none ∧
    validate qpo { args := [], kwds := [(10, 21)] } = true := by
  decide

end Klepto.C19
namespace Klepto.PosOnly
open Klepto.Keys
/-- without the `/` the same spelling is no collision of two valid calls: CPython rejects it (`x` is bound twice) -/
example : keygen K0 { p with nposonly := 0 } [] { args := [21], kwds := [(10, 25)] } ≠
          keygen K0 { p with nposonly := 0 } [] { args := [21], kwds := [(10, 26)] } ∨
          bind 0 { p with nposonly := 0 } { args := [21], kwds := [(10, 25)] } = none := by decide

end Klepto.PosOnly
