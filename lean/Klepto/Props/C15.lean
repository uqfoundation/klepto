import Klepto.Lemmas.Basic
/-!
# C15 — Statistics are an exact account of what happened

Ground truth is a classification of each call from *membership before the call*, independent of
the counters; the theorems say the counters are exactly the classified event counts.
-/
namespace Klepto.C15
open AMap
variable {K V : Type} [DecidableEq K]

inductive Cls | hit | load | miss | nothing
  deriving DecidableEq, Repr

/-- ground-truth classification of a call.  `hit`: resident in memory (caching decorators);
`load`: fetched from the archive (for `no_cache`: every retrieved result); `miss`: the function is
evaluated and returns; `nothing`: the function raised, or the key pipeline failed in a standard
decorator. -/
def classify (cfg : Cfg) (s : St K V) (ci : CallIn K V) : Cls :=
  match ci.key with
  | .ok k =>
    if cfg.algo ≠ .no ∧ (get? s.c.mem k).isSome then .hit
    else if (get? (s.c.preload k).mem k).isSome then .load
    else match ci.fn with
      | .ok _ => .miss
      | .error _ => .nothing
  | _ => if cfg.safe then (match ci.fn with | .ok _ => .miss | .error _ => .nothing) else .nothing

def delta : Cls → Nat × Nat × Nat
  | .hit => (1, 0, 0) | .miss => (0, 1, 0) | .load => (0, 0, 1) | .nothing => (0, 0, 0)

def add3 (a b : Nat × Nat × Nat) : Nat × Nat × Nat := (a.1 + b.1, a.2.1 + b.2.1, a.2.2 + b.2.2)

def Out.completed : Out V → Bool
  | .ret _ _ => true
  | _ => false

/-- how a call of class `c` ends: an uncounted call does not return; a counted one returns - or has stored and
counted its result when `mru`'s `IndexError` (F2) leaves the purge block -/
def Cls.Ends (c : Cls) (o : Out V) : Prop :=
  if c = .nothing then Out.completed o = false else Out.completed o = true ∨ o.isIndexError = true

theorem finish_ends (cfg : Cfg) (s : St K V) (k : K) (v : V) (n : Nat) (vi : Option K) :
    Out.completed (finish cfg s k v n vi).2 = true ∨ (finish cfg s k v n vi).2.isIndexError = true :=
  (finish_out cfg s k v n vi).imp (fun h => by rw [h]; rfl) (fun h => by rw [h]; rfl)

section
attribute [local simp] classify St.stats add3 delta Cls.Ends

/-- **the class of a call says how the counters move and how the call ends** - all twelve wrappers, every path -/
theorem C15_call (cfg : Cfg) (s : St K V) (ci : CallIn K V) :
    (call cfg s ci).1.stats = add3 s.stats (delta (classify cfg s ci)) ∧
    (classify cfg s ci).Ends (call cfg s ci).2 := by
  have hkf : ∀ e, ci.key = .genError e ∨ ci.key = .unhashable e →
      (keyFail cfg s ci.fn e).1.stats = add3 s.stats (delta (classify cfg s ci)) ∧
      (classify cfg s ci).Ends (keyFail cfg s ci.fn e).2 := fun e hk => by
    have hc : classify cfg s ci =
        if cfg.safe then (match ci.fn with | .ok _ => .miss | .error _ => .nothing) else .nothing := by
      rcases hk with hk | hk <;> simp only [classify, hk]
    rw [hc]
    cases hs : cfg.safe <;> cases ci.fn <;>
      simp [keyFail, evalDirect, hs, Out.completed]
  unfold call
  split
  · refine callNo_cases (motive := fun r => r.1.stats = _ ∧ Cls.Ends _ r.2) cfg s ci (fun e hk => hkf e (Or.inl hk))
      ?_ ?_ ?_ ?_ ?_ ?_ <;> intros <;> simp [Out.completed, *]
  · rename_i hno
    refine callCached_cases (motive := fun r => r.1.stats = _ ∧ Cls.Ends _ r.2) cfg s ci hkf ?_ ?_ ?_ ?_
    · intro k v hk hm
      simp only [hitStep, post_stats]
      split <;> simp [hk, hm, hno, Out.completed]
    · intro k v hk hm ha
      simp only [loadStep, finish_stats]
      simp [hk, hm, hno, preload_get_self, ha, finish_ends]
    · intro k e hk hm ha hf
      simp [hk, hm, hno, preload_get_self, ha, hf, Out.completed]
    · intro k v hk hm ha hf
      simp only [missStep, finish_stats]
      simp [hk, hm, hno, preload_get_self, ha, hf, finish_ends]

end

/-- **Counters move by exactly the classified event** — all twelve wrappers, every path. -/
theorem C15_step_counts (cfg : Cfg) (s : St K V) (ci : CallIn K V) :
    (call cfg s ci).1.stats = add3 s.stats (delta (classify cfg s ci)) :=
  (C15_call cfg s ci).1

/-- **hit + miss + load counts completed calls**: a call is counted iff it completes
(returns a value); the only exception is `mru`'s `IndexError` (F2), excluded by `hne`. -/
theorem C15_completed_iff_counted (cfg : Cfg) (s : St K V) (ci : CallIn K V)
    (hne : (call cfg s ci).2.isIndexError = false) :
    Out.completed (call cfg s ci).2 = true ↔ classify cfg s ci ≠ .nothing := by
  have h := (C15_call cfg s ci).2
  unfold Cls.Ends at h
  by_cases hc : classify cfg s ci = .nothing
  · rw [if_pos hc] at h; simp [h, hc]
  · rw [if_neg hc, hne] at h; simpa [hc] using h

/-- the counters never move by more than one per call, and `delta` sums to 0 or 1 -/
theorem delta_total (c : Cls) : (delta c).1 + (delta c).2.1 + (delta c).2.2 = if c = .nothing then 0 else 1 := by
  cases c <;> simp [delta]

/-- ground-truth account along a history (reset by `clear()`, kept by `clear(keepstats=True)`) -/
def account (cfg : Cfg) : St K V → List (Op K V) → Nat × Nat × Nat → Nat × Nat × Nat
  | _, [], acc => acc
  | s, op :: ops, acc =>
    let acc' := match op with
      | .call ci => add3 acc (delta (classify cfg s ci))
      | .clear false => (0, 0, 0)
      | _ => acc
    account cfg (step cfg s op).1 ops acc'

/-- **C15, histories.**  At every point of every history, `(hit, miss, load)` equals the
ground-truth account of classified calls since the last reset. -/
theorem C15_counts (cfg : Cfg) (ops : List (Op K V)) (s : St K V) :
    (run cfg s ops).1.stats = account cfg s ops s.stats := by
  induction ops generalizing s with
  | nil => rfl
  | cons op ops ih =>
    dsimp only [run, account]
    rw [ih]
    congr 1
    -- only a call and `clear()` touch the counters
    have same : op.touchesMem = false → (step cfg s op).1.stats = s.stats := fun ht => by
      obtain ⟨c', h, _⟩ := step_sameMem cfg s op ht
      rw [h]; rfl
    cases op with
    | call ci => exact C15_step_counts cfg s ci
    | clear keep => cases keep <;> rfl
    | load | loadAll => rfl
    | _ => exact same rfl

/-- **info()** reports the counters, the configured bound (`0` / `None` for no / inf) and the
current number of resident entries; it changes nothing. -/
theorem C15_info (cfg : Cfg) (s : St K V) :
    step cfg s .info = (s, .info s.hit s.miss s.load
      (match cfg.algo with | .no => some 0 | .inf => none | _ => some cfg.maxsize) s.c.mem.length) := rfl

/-- **clear()** empties the memory cache and the bookkeeping and zeroes the counters;
**clear(keepstats=True)** keeps the counters - for all twelve decorators (since the repair of F56 also
for `no_cache`, whose memory is not empty after a `load()`). -/
theorem C15_clear (cfg : Cfg) (s : St K V) (keep : Bool) :
    (step cfg s (.clear keep)).1.c.mem = [] ∧
    (step cfg s (.clear keep)).1.stats = (if keep then s.stats else (0, 0, 0)) ∧
    (step cfg s (.clear keep)).1.c.arch = s.c.arch := by
  cases keep <;> exact ⟨rfl, rfl, rfl⟩

section Examples
def lfu3 : Cfg := { algo := .lfu, safe := false, maxsize := 3, purge := false }
def c0 : Cache Nat Nat := { mem := [], arch := some [(9, 90)], swap := none }
def mk (k v : Nat) : Op Nat Nat := .call { key := .ok k, fn := .ok v, victim := none }
/-- miss, hit, load from the archive, a raising call -/
example : (run lfu3 (St.init c0) [mk 1 10, mk 1 10, mk 9 90,
      .call { key := .ok 5, fn := .error (.user 5), victim := none }]).1.stats = (1, 1, 1) := by decide
/-- **F2**: the `mru` call that ends in `IndexError` has already been counted, so the
hypothesis `isIndexError = false` of `C15_completed_iff_counted` cannot be dropped -/
example :
    let cfg : Cfg := { algo := .mru, safe := false, maxsize := 1, purge := false }
    let s : St Nat Nat := St.init { mem := [(5, 50), (6, 60)], arch := none, swap := none }
    let ci : CallIn Nat Nat := { key := .ok 7, fn := .ok 70, victim := none }
    (call cfg s ci).2 = .raised .indexError 1 ∧ (call cfg s ci).1.stats = (0, 1, 0) := by decide
end Examples

end Klepto.C15
