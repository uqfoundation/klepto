import Klepto.Props.C10
/-!
# C10 with a sentinel: flat keys of functions WITH `*args`

`C10_calls` covers signatures without variadic positionals.  The property also claims flat keys
"when a sentinel is configured": the sentinel marks where the positional tail ends, so the tail and
the keyword items cannot be mistaken for each other.  This file proves it for every flat keymap
configuration with a sentinel (typed or not), under the one assumption the mechanism needs: the
sentinel object is not itself passed as an argument, keyword name or value, and is not a type.
-/
namespace Klepto.C10
open Klepto.AMap Klepto.Keys

variable {Val : Type}

theorem not_mem_flatten_sorted (le : Val → Val → Bool) (kw : List (Val × Val)) (m : Val) (h : m ∉ flatten kw) :
    m ∉ flatten (sortedItems le kw) := by
  simpa only [flatten, List.mem_flatMap, sortedItems, mem_isort] using h

theorem C10_sentinel_split (m : Val) (a₁ a₂ r₁ r₂ : List Val) (h₁ : m ∉ a₁) (h₂ : m ∉ a₂)
    (h : a₁ ++ m :: r₁ = a₂ ++ m :: r₂) : a₁ = a₂ ∧ r₁ = r₂ := by
  induction a₁ generalizing a₂ with
  | nil =>
    cases a₂ with
    | nil => simpa using h
    | cons y ys =>
      simp only [List.nil_append, List.cons_append, List.cons.injEq] at h
      exact absurd (h.1 ▸ List.mem_cons_self) h₂
  | cons x xs ih =>
    cases a₂ with
    | nil =>
      simp only [List.nil_append, List.cons_append, List.cons.injEq] at h
      exact absurd (h.1 ▸ List.mem_cons_self) h₁
    | cons y ys =>
      simp only [List.cons_append, List.cons.injEq] at h
      have := ih ys (fun hh => h₁ (List.mem_cons_of_mem _ hh)) (fun hh => h₂ (List.mem_cons_of_mem _ hh)) h.2
      exact ⟨by rw [h.1, this.1], this.2⟩

variable [DecidableEq Val]

theorem keyList_inj_sentinel (km : KM Val) (m : Val) (hm : km.mark = some m) (tyOf : Val → Val)
    (a₁ a₂ : List Val) (S₁ S₂ : List (Val × Val))
    (ha₁ : m ∉ a₁) (ha₂ : m ∉ a₂) (hs₁ : m ∉ flatten S₁) (hs₂ : m ∉ flatten S₂) (hty : ∀ v, tyOf v ≠ m)
    (h : keyList km tyOf a₁ S₁ = keyList km tyOf a₂ S₂) : a₁ = a₂ ∧ S₁ = S₂ := by
  have hT : ∀ a : List Val, m ∉ a.map tyOf := fun a hmem => by
    obtain ⟨v, _, hv⟩ := List.mem_map.mp hmem
    exact hty v hv
  unfold keyList at h
  rw [show markL km = [m] by simp only [markL, hm]] at h
  -- the key splits at the first mark: before it the positionals; after it the items (if any) up to the next mark
  cases ht : km.typed <;>
    simp only [ht, Bool.false_eq_true, if_false, if_true, List.append_nil, List.singleton_append] at h <;>
    cases S₁ <;> cases S₂ <;> simp only [reduceCtorEq, if_false, if_true] at h
  · exact ⟨h, rfl⟩
  · exact absurd (h ▸ List.mem_append_right _ List.mem_cons_self) ha₁
  · exact absurd (h ▸ List.mem_append_right _ List.mem_cons_self) ha₂
  · obtain ⟨e1, e2⟩ := C10_sentinel_split m _ _ _ _ ha₁ ha₂ h
    exact ⟨e1, flatten_inj _ _ e2⟩
  -- typed: a key without keywords has one mark, one with keywords has three
  all_goals obtain ⟨e1, e2⟩ := C10_sentinel_split m _ _ _ _ ha₁ ha₂ h
  · exact ⟨e1, rfl⟩
  · exact absurd (e2 ▸ List.mem_append_right _ List.mem_cons_self) (hT a₁)
  · exact absurd (e2 ▸ List.mem_append_right _ List.mem_cons_self) (hT a₂)
  · exact ⟨e1, flatten_inj _ _ (C10_sentinel_split m _ _ _ _ hs₁ hs₂ e2).1⟩

/-- **C10, flat keymaps with a sentinel, any signature (also with `*args`)**: the key determines the positional
tail and the value bound to every name. -/
theorem C10_flat_sentinel (km : KM Val) (m : Val) (hm : km.mark = some m) (le : Val → Val → Bool) (tyOf : Val → Val)
    (fast : Val → Bool) (a₁ a₂ : List Val) (kw₁ kw₂ : List (Val × Val))
    (hn₁ : (keys kw₁).Nodup) (hn₂ : (keys kw₂).Nodup)
    (ha₁ : m ∉ a₁) (ha₂ : m ∉ a₂) (hk₁ : m ∉ flatten kw₁) (hk₂ : m ∉ flatten kw₂) (hty : ∀ v, tyOf v ≠ m)
    (h : encodeFlat km le tyOf fast a₁ kw₁ = encodeFlat km le tyOf fast a₂ kw₂) :
    a₁ = a₂ ∧ ∀ n, get? kw₁ n = get? kw₂ n := by
  have hl := congrArg flatList h
  rw [flatList_encodeFlat, flatList_encodeFlat] at hl
  obtain ⟨e1, e2⟩ := keyList_inj_sentinel km m hm tyOf _ _ _ _ ha₁ ha₂ (not_mem_flatten_sorted le kw₁ m hk₁)
    (not_mem_flatten_sorted le kw₂ m hk₂) hty hl
  exact ⟨e1, get?_of_sortedItems_eq le _ _ hn₁ hn₂ e2⟩

/-- the sentinel does not occur in what `_keygen` hands to the keymap for this call -/
def SentinelFree (m : Val) (k : Consts Val) (f : Func Val) (c : PCall Val) : Prop :=
  m ∉ (keygen k f [] c).1 ∧ m ∉ flatten (keygen k f [] c).2

/-- **C10 for calls, flat keymap with a sentinel, signatures with or without `*args`**: two accepted calls that
differ in the value bound to some name, or in the extra positionals, get different keys. -/
theorem C10_calls_sentinel (k : Consts Val) (self : Val) (f : Func Val) (c₁ c₂ : PCall Val) (b₁ b₂ : Binding Val)
    (km : KM Val) (m : Val) (hm : km.mark = some m) (le : Val → Val → Bool) (tyOf : Val → Val) (fast : Val → Bool)
    (hpl : Plain f) (hwf : (names f.pos ++ names f.kwonly).Nodup)
    (hk₁ : (keys c₁.kwds).Nodup) (hk₂ : (keys c₂.kwds).Nodup)
    (hb₁ : bind self f c₁ = some b₁) (hb₂ : bind self f c₂ = some b₂)
    (hs₁ : SentinelFree m k f c₁) (hs₂ : SentinelFree m k f c₂) (hty : ∀ v, tyOf v ≠ m)
    (hne : b₁.extraPos ≠ b₂.extraPos ∨ ∃ n, get? (b₁.named ++ b₁.extraKw) n ≠ get? (b₂.named ++ b₂.extraKw) n) :
    encodeFlat km le tyOf fast (keygen k f [] c₁).1 (keygen k f [] c₁).2 ≠
    encodeFlat km le tyOf fast (keygen k f [] c₂).1 (keygen k f [] c₂).2 := by
  obtain ⟨ha₁, hm₁⟩ := keygen_eq_bind k self f c₁ b₁ hpl hwf hk₁ hb₁
  obtain ⟨ha₂, hm₂⟩ := keygen_eq_bind k self f c₂ b₂ hpl hwf hk₂ hb₂
  intro heq
  obtain ⟨e1, e2⟩ := C10_flat_sentinel km m hm le tyOf fast _ _ _ _ (keygen_nodup k f c₁ hpl hwf)
    (keygen_nodup k f c₂ hpl hwf) hs₁.1 hs₂.1 hs₁.2 hs₂.2 hty heq
  rcases hne with h | ⟨n, h⟩
  · apply h; rw [← ha₁, ← ha₂, e1]
  · apply h; rw [← hm₁, ← hm₂]; exact e2 n

/-! non-vacuity: `def f(x, *args, **kw)` (names x = 10), sentinel 7, calls `f(20, 30)` and `f(20, a=30)` (a = 12) -/
def K0s : Consts Nat := { null := 0, star := 1, dstar := 2 }
def fvs : Func Nat := { pos := [⟨10, none⟩], varargs := true, kwonly := [], varkw := true }
def kms : KM Nat := { typed := false, flat := true, mark := some 7 }

example : SentinelFree 7 K0s fvs { args := [20, 30], kwds := [] } ∧ SentinelFree 7 K0s fvs { args := [20], kwds := [(12, 30)] } ∧
    (bind 99 fvs { args := [20, 30], kwds := [] }).isSome = true ∧ (bind 99 fvs { args := [20], kwds := [(12, 30)] }).isSome = true := by
  unfold SentinelFree; decide

/-- without a sentinel `g(12, 30)` and `g(**{12: 30})` collide for `def g(*args, **kw)` (`fvs` without its positional
parameter): the guard `mark = some m` is needed -/
example : encodeFlat { kms with mark := none } (fun a b => decide (a ≤ b)) (fun _ => 100) (fun _ => false)
      (keygen K0s { fvs with pos := [] } [] { args := [12, 30], kwds := [] }).1 (keygen K0s { fvs with pos := [] } [] { args := [12, 30], kwds := [] }).2 =
    encodeFlat { kms with mark := none } (fun a b => decide (a ≤ b)) (fun _ => 100) (fun _ => false)
      (keygen K0s { fvs with pos := [] } [] { args := [], kwds := [(12, 30)] }).1 (keygen K0s { fvs with pos := [] } [] { args := [], kwds := [(12, 30)] }).2 := by
  decide

end Klepto.C10
