import Klepto.Props.C07
import Klepto.Props.C16
import Klepto.Lemmas.WF
/-!
# C02 — Compute-once: the function runs only when no stored result is retrievable
-/
namespace Klepto.C02
open AMap Klepto.C07
variable {K V : Type} [DecidableEq K]

abbrev evalsOf : Out V → Nat := Klepto.C16.evalsOf

/-- the stored result for `k` is retrievable: resident in memory, or in the attached archive -/
def Retrievable (c : Cache K V) (k : K) : Bool := (get? (c.preload k).mem k).isSome

theorem retrievable_iff_retr (c : Cache K V) (k : K) : Retrievable c k = true ↔ (retr c k).isSome := by
  unfold Retrievable retr
  rw [preload_get_self]
  cases c.aget k <;> cases get? c.mem k <;> rfl

/-- **The function is evaluated exactly when no stored result is retrievable** — all twelve
wrappers, every configuration; and never more than once. -/
theorem C02_eval_iff (cfg : Cfg) (s : St K V) (ci : CallIn K V) (k : K) (hk : ci.key = .ok k) :
    evalsOf (call cfg s ci).2 = if Retrievable s.c k then 0 else 1 := by
  rw [evalsOf, C16.evalsOf_call, hk]; rfl

/-- the invariants of a caching decorator with a lossless archive attached and switched on -/
structure Inv (cfg : Cfg) (s : St K V) : Prop where
  wf : WF cfg s
  archived : s.c.archived = true
  agree : Agree s.c
  archNodup : ArchNodup s.c

/-- operations that neither clear results nor detach / replace / externally edit the archive
(those are the cases in which the property allows re-evaluation) -/
def Quiet : Op K V → Bool
  | .call _ => true | .load _ => true | .loadAll => true | .dump _ => true | .dumpAll => true
  | .lookup _ => true | .info => true | .archivedQ => true
  | _ => false

theorem Inv.sound {cfg : Cfg} {s : St K V} (h : Inv cfg s) : Sound s.c := ⟨h.wf.memNodup, h.archived, h.agree⟩

theorem keeps_step_quiet (cfg : Cfg) (s : St K V) (op : Op K V) (hno : cfg.algo ≠ .no)
    (hS : Sound s.c) (han : ArchNodup s.c) (hq : Quiet op = true) :
    Keeps s.c (step cfg s op).1.c ∧ ArchNodup (step cfg s op).1.c := by
  cases op with
  | call ci =>
    rw [show step cfg s (.call ci) = callCached cfg s ci from call_eq_callCached hno s ci]
    exact ⟨(traffic_callCached cfg s ci hS.nodup).keeps hS, archNodup_callCached cfg s ci hS.nodup han⟩
  | load ks => exact ⟨keeps_of_loaded hS (loadRel_loadKeys s.c ks), archNodup_of_arch_eq han (loadRel_loadKeys _ _).arch⟩
  | loadAll => exact ⟨keeps_of_loaded hS (loadRel_loadAll s.c han), archNodup_of_arch_eq han (loadAll_arch s.c)⟩
  | dump ks => exact ⟨keeps_of_copied hS (dumpKeys_mem s.c ks) (moveRel_dumpKeys s.c ks), archNodup_dumpKeys _ ks han⟩
  | dumpAll => exact ⟨keeps_of_copied hS (dumpAll_mem s.c) (moveRel_dumpAll s.c hS.nodup), archNodup_dumpAll _ han⟩
  | lookup key => rw [step_lookup_fst]; exact ⟨Keeps.refl hS, han⟩
  | info | archivedQ => exact ⟨Keeps.refl hS, han⟩
  | _ => cases hq

/-- no call with key `k` in the history evaluates the function -/
def NoEval (cfg : Cfg) (k : K) : St K V → List (Op K V) → Prop
  | _, [] => True
  | s, op :: ops =>
    (match op with
     | .call ci => ci.key = .ok k → evalsOf (call cfg s ci).2 = 0
     | _ => True) ∧ NoEval cfg k (step cfg s op).1 ops

/-- **Once retrievable, never evaluated again** — over any history of calls (any arguments,
any evictions and purges), `dump`/`load` (with or without keys) and introspection, while a
lossless archive stays attached - whatever the bookkeeping (`queue`, `rc`, `uc`) looks like. -/
theorem C02_no_reeval (cfg : Cfg) (ops : List (Op K V)) (s : St K V) (k : K) (w : V)
    (hno : cfg.algo ≠ .no) (hS : Sound s.c) (han : ArchNodup s.c)
    (hq : ∀ op ∈ ops, Quiet op = true) (hr : retr s.c k = some w) : NoEval cfg k s ops := by
  induction ops generalizing s with
  | nil => trivial
  | cons op ops ih =>
    have h1 := keeps_step_quiet cfg s op hno hS han (hq op (by simp))
    refine ⟨?_, ih _ h1.1.1 h1.2 (fun o ho => hq o (by simp [ho])) (h1.1.2 k w hr)⟩
    cases op with
    | call ci =>
      intro hk
      rw [C02_eval_iff cfg s ci k hk, if_pos ((retrievable_iff_retr s.c k).mpr (by rw [hr]; rfl))]
    | _ => trivial

theorem absent_of_eval (cfg : Cfg) (s : St K V) (ci : CallIn K V) (k : K)
    (hk : ci.key = .ok k) (he : evalsOf (call cfg s ci).2 = 1) : s.c.aget k = none ∧ get? s.c.mem k = none := by
  rw [C02_eval_iff cfg s ci k hk] at he
  refine (preload_get_eq_none s.c k).mp ?_
  unfold Retrievable at he
  cases h : get? (s.c.preload k).mem k with
  | none => rfl
  | some x => simp [h] at he

/-- **… and a successful evaluation makes the key retrievable**, so each distinct key is
evaluated successfully at most once over such a history (also when the call itself ends in
mru's `IndexError`: the entry has been stored by then). -/
theorem C02_after_eval_retrievable (cfg : Cfg) (s : St K V) (ci : CallIn K V) (k : K) (v : V)
    (hno : cfg.algo ≠ .no) (hn : (keys s.c.mem).Nodup) (ha : s.c.archived = true) (hk : ci.key = .ok k)
    (hf : ci.fn = .ok v) (he : evalsOf (call cfg s ci).2 = 1) : retr (call cfg s ci).1.c k = some v := by
  have hnr := absent_of_eval cfg s ci k hk he
  rw [call_eq_callCached hno]
  obtain ⟨c2, hc2, hmv, hlv⟩ := callCached_rel cfg s ci hn
  rw [retr_move hmv (hlv ha)]
  rcases hc2 with ⟨rfl, _, hres⟩ | ⟨k', v', hk', hins, _, hsrc⟩
  · have := hres k v hk hf
    rw [hnr.2] at this; cases this
  · rw [hk] at hk'; cases hk'
    rcases hsrc with h | h
    · rw [hnr.1] at h; cases h
    · rw [hf] at h; cases h; unfold retr; rw [hins.get_self]

/-- **A second decorator instance or later session sharing the archive** never evaluates a key
that has reached the archive: a fresh wrapper state over archive contents `a`. -/
theorem C02_second_session (cfg : Cfg) (a : List (K × V)) (ops : List (Op K V)) (k : K) (w : V)
    (hno : cfg.algo ≠ .no) (hmp : MruNoPurge cfg) (ha : (keys a).Nodup)
    (hq : ∀ op ∈ ops, Quiet op = true) (hk : get? a k = some w) :
    NoEval cfg k (St.init { mem := [], arch := some a, swap := none }) ops := by
  have h := sound_new_session a ha
  exact C02_no_reeval cfg ops _ k w hno h.1 h.2 hq (by simp [retr, St.init, get?, Cache.aget, hk])

/-- **Without an archive a key is re-evaluated only after it was evicted or cleared**: an
evaluation implies the key is not resident. -/
theorem C02_reeval_needs_absence (cfg : Cfg) (s : St K V) (ci : CallIn K V) (k : K)
    (hk : ci.key = .ok k) (he : evalsOf (call cfg s ci).2 = 1) : get? s.c.mem k = none :=
  (absent_of_eval cfg s ci k hk he).2

section Examples
def lru1 : Cfg := { algo := .lru, safe := false, maxsize := 1, purge := false }
def mk (k v : Nat) : Op Nat Nat := .call { key := .ok k, fn := .ok v, victim := none }
def c0 : Cache Nat Nat := { mem := [], arch := some [], swap := none }
/-- evict-then-reload: five calls over two keys with `maxsize = 1` evaluate twice in total -/
example : ((run lru1 (St.init c0) [mk 1 10, mk 2 20, mk 1 10, mk 2 20, mk 1 10]).2.map evalsOf) = [1, 1, 0, 0, 0] := by
  decide
end Examples

end Klepto.C02
