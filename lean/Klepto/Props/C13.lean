import Klepto.Lemmas.FS
import Klepto.Lemmas.BackendSql
/-!
# C13 — Crash atomicity of archive writes

Model M8 (`Model/FS.lean`): the write protocols as programs of mutating system calls; a crash is any
prefix (plus a torn version of the next write); `fileRecover` / `valAt`+`Readable` / `sqlGet` are what
a fresh process reads.  Everything below quantifies over **all** prior contents, keys, values,
staging names and crash points of the modelled programs; suite `fs` ties the programs and the
recovered views to the code by killing the real writer before every gated system call.

* `file_archive` (after fix F18, `os.replace`): every crash state reads as the old or the new dict —
  for every operation, since every mutating method is one `__save__` (`C13_file_save`, `C13_file_op`).
  `C13_file_window_before_fix`: the removed `unlink(target)` left a state that reads as `{}`.
* `dir_archive` (after fixes F19: staging directories hidden, entries renamed aside before removal):
  `C13_dir_partial`: for any sequence of entry stores and removals (`__setitem__`, `update`, `dump`, `pop`,
  `__delitem__`, `popkeys`, `popitem`, `clear`), in every crash state a fresh reader does not fail, an
  untouched entry reads as before, and a touched entry reads as before, or as one of the values
  being stored, or — **the `_partial` part** — as absent.  For removals and for keys that were
  absent before, "absent" is the old or the new state, so those operations are atomic as the
  property demands (`C13_dir_remove_atomic`, `C13_dir_new_key_atomic`).  For an overwrite it is not:
  `C13_dir_overwrite_gap` is the witness (known finding F19b: the old entry is renamed away before the
  new one is renamed in).
* sqlite: statements are committed one by one; a kill leaves a prefix (`C13_sql_set`, `C13_sql_del`).
-/
namespace Klepto.C13
open AMap Crash

section File
variable {C : Type}

/-- **every crash state of `__save__(memo)` reads as the previous contents or as `memo`** (the code
after F18: temp file, then one atomic `rename`); `t` is the fresh temp name -/
theorem C13_file_save (emptyD : C) (fs : FileFS C) (t : Nat) (memo : C) :
    ∀ st ∈ fileCrashStates fs (saveProg true t memo),
      fileRecover emptyD st = fileRecover emptyD fs ∨ fileRecover emptyD st = memo := by
  intro st hst
  simp only [saveProg, fileCrashStates, List.cons_append, List.nil_append, List.mem_cons,
    List.mem_nil_iff, or_false, if_true] at hst
  have hhas : has (put fs.temps t (FileSt.empty : FileSt C)) t = true := by simp [has_put]
  -- only the last call, the rename, touches the archive file
  rcases hst with rfl | rfl | rfl | rfl | rfl
  · exact .inl rfl
  · exact .inl rfl
  · exact .inl (by simp [fstep, fileRecover, hhas])
  · exact .inl (by simp [fstep, fileRecover, hhas])
  · exact .inr (by simp [fstep, fileRecover, hhas, get?_put])

/-- every mutating method of `file_archive` is `memo = __asdict__(); <dict operation>; __save__(memo)`:
killed anywhere, a fresh reader finds the contents before the operation or the contents after it -/
theorem C13_file_op {K V : Type} [DecidableEq K] (c : Backend.Codec K V) (old : List (K × V)) (op : Backend.Op K V)
    (junk : List (Nat × FileSt (List (K × V)))) (t : Nat) :
    let new := (Backend.dictStep old op).1
    ∀ st ∈ fileCrashStates { target := some (.full old), temps := junk } (saveProg true t new),
      fileRecover [] st = old ∨ fileRecover [] st = new :=
  C13_file_save [] { target := some (.full old), temps := junk } t _

/-- before fix F18 (`os.remove(target)` then `os.renames(temp, target)`): killed between the two, the
archive is gone and a fresh handle re-creates it empty — every entry lost -/
theorem C13_file_window_before_fix :
    ∃ st ∈ fileCrashStates ({ target := some (.full [(1, 10), (2, 20)]), temps := [] } : FileFS (List (Nat × Nat)))
        (saveProg false 0 [(1, 10), (2, 20), (3, 30)]),
      fileRecover [] st = [] := by
  refine ⟨{ target := none, temps := [(0, .full [(1, 10), (2, 20), (3, 30)])] }, ?_, rfl⟩
  decide

end File

end Klepto.C13

namespace Klepto.C14
/-- the entry an action works on (under C14's name, which it had before `Own` below came to need it; `Props/C14.lean` imports this file) -/
def actName {V : Type} : Crash.DAct V → String
  | .store n _ _ => n
  | .remove n => n
end Klepto.C14

namespace Klepto.C13
open AMap Crash Sched C14
section Dir
variable {V : Type}

/-- no staging name from `next` on is in use (names are random md5 digests in the code) -/
def FreshFrom (next : Nat) (s : DirFS V) : Prop := ∀ i, next ≤ i → get? s (.temp i) = none

theorem freshFrom_mono {a b : Nat} (h : a ≤ b) (s : DirFS V) (hf : FreshFrom a s) : FreshFrom b s :=
  fun i hi => hf i (Nat.le_trans h hi)

def TempsBelow (B : Nat) (x : DSys V) : Prop := ∀ i, DName.temp i ∈ sysNames x → i < B

theorem allCrash_fresh (B : Nat) (prog : List (DSys V)) (s : DirFS V) (hn : (keys s).Nodup) (hf : FreshFrom B s)
    (hp : ∀ x ∈ prog, TempsBelow B x) : AllCrash (fun c => (keys c).Nodup ∧ FreshFrom B c) s prog :=
  allCrash_of_inv _ (TempsBelow B)
    (fun c x hx hc => ⟨nodup_dstep c x hc.1, fun i hi => by
      rw [get?_dstep_frame c x _ hc.1 fun hm => Nat.lt_irrefl i (Nat.lt_of_lt_of_le (hx i hm) hi)]; exact hc.2 i hi⟩)
    (fun _ _ h => h) (fun _ h => h) s prog hp ⟨hn, hf⟩

/-- crash states keep distinct names and fresh staging names -/
theorem crash_states_inv (B : Nat) (prog : List (DSys V)) (s : DirFS V) (hn : (keys s).Nodup) (hf : FreshFrom B s)
    (hp : ∀ x ∈ prog, TempsBelow B x) :
    ∀ c ∈ dirCrashStates s prog, (keys c).Nodup ∧ FreshFrom B c :=
  (allCrash_iff ..).mp (allCrash_fresh B prog s hn hf hp)

theorem mem_rmProg {ip : Bool} {s : DirFS V} {n : DName} {x : DSys V} (hx : x ∈ rmProg ip s n) :
    x = .unlinkOut n ∨ x = .unlinkIn n ∨ x = .rmdir n := by
  unfold rmProg at hx
  split at hx
  · cases hx
  · rcases List.mem_append.mp hx with hx | hx
    · cases ip <;> rcases List.mem_append.mp hx with h | h <;>
        simp [List.mem_singleton.mp (List.mem_ite_nil_right.mp h).2]
    · exact .inr (.inr (List.mem_singleton.mp hx))

theorem mem_stageProg {ni : Bool} {t : DName} {v : V} {x : DSys V} (hx : x ∈ stageProg ni t v) :
    x = .mkdir t ∨ x = .creatOut t ∨ x = .writeOut t v ∨ ni = true ∧ (x = .creatIn t ∨ x = .writeIn t) := by
  cases ni <;> simpa [stageProg] using hx

theorem rmProg_names (ip : Bool) (s : DirFS V) (n : DName) : ∀ x ∈ rmProg ip s n, sysNames x = [n] :=
  fun x hx => by rcases mem_rmProg hx with rfl | rfl | rfl <;> rfl

theorem stageProg_names (ni : Bool) (t : DName) (v : V) : ∀ x ∈ stageProg ni t v, sysNames x = [t] :=
  fun x hx => by rcases mem_stageProg hx with rfl | rfl | rfl | ⟨_, rfl | rfl⟩ <;> rfl

theorem rmProg_tempOnly (ip : Bool) (s : DirFS V) (i : Nat) : ∀ x ∈ rmProg ip s (.temp i), TempOnly x :=
  fun x hx => by rcases mem_rmProg hx with rfl | rfl | rfl <;> trivial

theorem stageProg_tempOnly (ni : Bool) (i : Nat) (v : V) : ∀ x ∈ stageProg ni (.temp i) v, TempOnly x :=
  fun x hx => by rcases mem_stageProg hx with rfl | rfl | rfl | ⟨_, rfl | rfl⟩ <;> trivial

/-- the names of a writer: its two private staging names and its entry's directory -/
def Own (next : Nat) (act : DAct V) (m : DName) : Prop := m = .temp next ∨ m = .temp (next + 1) ∨ m = .key (actName act)

theorem own_key {next : Nat} {act : DAct V} {m : String} : Own next act (.key m) ↔ m = actName act := by simp [Own]

theorem own_temp {next : Nat} {act : DAct V} {i : Nat} : Own next act (.temp i) ↔ i = next ∨ i = next + 1 := by simp [Own]

theorem actProg_names (ip : Bool) (s : DirFS V) (next : Nat) (act : DAct V) :
    ∀ x ∈ actProg true ip s next act, ∀ a ∈ sysNames x, Own next act a := by
  have single : ∀ (p : List (DSys V)) (t : DName), (∀ x ∈ p, sysNames x = [t]) → Own next act t →
      ∀ x ∈ p, ∀ a ∈ sysNames x, Own next act a :=
    fun p t hp ht x hx a ha => by rw [hp x hx] at ha; cases List.mem_singleton.mp ha; exact ht
  have pair : ∀ a b, Own next act a → Own next act b → ∀ m ∈ sysNames (.rename a b : DSys V), Own next act m :=
    fun a b ha hb m hm => by
      rcases List.mem_cons.mp hm with rfl | hm
      · exact ha
      · cases List.mem_singleton.mp hm; exact hb
  cases act with
  | remove n =>
    exact List.forall_mem_cons.mpr ⟨pair _ _ (.inr (.inr rfl)) (.inl rfl), single _ _ (rmProg_names ip _ _) (.inl rfl)⟩
  | store n ni v =>
    exact List.forall_mem_append.mpr ⟨List.forall_mem_append.mpr ⟨single _ _ (stageProg_names ni _ v) (.inl rfl),
      List.forall_mem_cons.mpr ⟨pair _ _ (.inr (.inr rfl)) (.inr (.inl rfl)), single _ _ (rmProg_names ip _ _) (.inr (.inl rfl))⟩⟩,
      List.forall_mem_singleton.mpr (pair _ _ (.inl rfl) (.inr (.inr rfl)))⟩

theorem actProg_tempsBelow (ip : Bool) (s : DirFS V) (next : Nat) (act : DAct V) :
    ∀ x ∈ actProg true ip s next act, TempsBelow (next + 2) x := by
  intro x hx i hi
  have := own_temp.mp (actProg_names ip s next act x hx _ hi)
  omega

theorem actsProg_tempsBelow (ip : Bool) (acts : List (DAct V)) (s : DirFS V) (next : Nat) :
    ∀ x ∈ actsProg true ip s next acts, TempsBelow (next + 2 * acts.length) x := by
  induction acts generalizing s next with
  | nil => intro x hx; cases hx
  | cons a as ih =>
    intro x hx i hi
    rw [List.length_cons, Nat.mul_succ, ← Nat.add_assoc, Nat.add_right_comm]
    rcases List.mem_append.mp hx with hx | hx
    · exact Nat.lt_of_lt_of_le (actProg_tempsBelow ip s next a x hx i hi) (Nat.le_add_right _ _)
    · exact ih _ (next + 2) x hx i hi

theorem get?_rename (s : DirFS V) (a b : DName) (hn : (keys s).Nodup) (hb : get? s b = none) (m : DName) :
    get? (dstep s (.rename a b)) m = if m = b then get? s a else if m = a then none else get? s m := by
  rw [get?_dstep s _ hn]
  dsimp only [vstep]
  rw [hb]
  cases ha : get? s a with
  | some e => rfl
  | none => simp only []; rw [ite_eq_self _ ha, ite_eq_self _ hb]

theorem get?_rmProg (ip : Bool) (s : DirFS V) (n : DName) (hn : (keys s).Nodup) (m : DName) :
    get? (drun s (rmProg ip s n)) m = if m = n then none else get? s m := by
  have : (rmProg ip s n).foldl (fun o x => entryEffect x o) (get? s n) = none := by
    rw [rmProg]
    rcases get? s n with _ | ⟨o, i⟩
    · rfl
    · cases o <;> cases i <;> cases ip <;> rfl
  rw [get?_drun s _ hn, vrun_single _ _ n (rmProg_names ip s n), this]

/-- the entry `_store` stages -/
def staged (ni : Bool) (v : V) : DDir V := { out := some (.full v), inp := if ni then some (.full ()) else none }

theorem staged_value (ni : Bool) (v : V) : (staged ni v).value = some v := by cases ni <;> rfl

theorem get?_stageProg (ni : Bool) (s : DirFS V) (t : DName) (v : V) (hn : (keys s).Nodup) (hf : get? s t = none) (m : DName) :
    get? (drun s (stageProg ni t v)) m = if m = t then some (staged ni v) else get? s m := by
  rw [get?_drun s _ hn, vrun_single _ _ t (stageProg_names ni t v), hf]
  cases ni <;> rfl

theorem get?_removeProg (ip : Bool) (s : DirFS V) (a t : DName) (hn : (keys s).Nodup) (ht : get? s t = none) (m : DName) :
    get? (drun s (removeProg true ip s a t)) m = if m = t ∨ m = a then none else get? s m := by
  simp only [removeProg, if_true, drun_cons]
  rw [get?_rmProg ip _ t (nodup_dstep s _ hn), get?_rename s a t hn ht]
  by_cases h : m = t
  · simp only [h, if_true, true_or]
  · simp only [h, if_false, false_or]

theorem get?_storeProg (ip ni : Bool) (s : DirFS V) (n : String) (i j : Nat) (v : V) (hn : (keys s).Nodup)
    (hi : get? s (.temp i) = none) (hj : get? s (.temp j) = none) (hij : i ≠ j) (m : DName) :
    get? (drun s (storeProg true ip ni s (.key n) (.temp i) (.temp j) v)) m =
      if m = .key n then some (staged ni v) else if m = .temp i ∨ m = .temp j then none else get? s m := by
  have g0 := get?_stageProg ni s (.temp i) v hn hi
  have hn0 := nodup_drun s (stageProg ni (.temp i) v) hn
  have g1 := get?_removeProg ip _ (.key n) (.temp j) hn0 (by rw [g0, if_neg (by simpa using Ne.symm hij), hj])
  rw [storeProg, drun_append, drun_append, drun_cons, drun, List.foldl_nil,
    get?_rename _ _ _ (nodup_drun _ _ hn0) (by rw [g1, if_pos (Or.inr rfl)])]
  simp only [g1, g0]
  by_cases h1 : m = .key n
  · simp [h1, hij]
  · by_cases h2 : m = .temp i <;> by_cases h3 : m = .temp j <;> simp [h1, h2, h3]

/-- **a completed `_store(n, v)` reads as `contents[n] = v`**: afterwards the entry `n` holds `v` and every
other entry is as before — the view-level meaning of M7's `dirStore` (`View.put`) -/
theorem store_final (ip : Bool) (s : DirFS V) (next : Nat) (n : String) (ni : Bool) (v : V)
    (hn : (keys s).Nodup) (hf : FreshFrom next s) (m : String) :
    valAt true (drun s (actProg true ip s next (.store n ni v))) (.key m) =
      if m = n then some v else valAt true s (.key m) := by
  simp only [actProg, valAt, visible, if_true,
    get?_storeProg ip ni s n next (next + 1) v hn (hf _ (Nat.le_refl _)) (hf _ (Nat.le_succ _)) (Nat.ne_of_lt (Nat.lt_succ_self _))]
  by_cases h : m = n <;> simp [h, staged_value]

/-- **a completed `_rmdir(n)` reads as `del contents[n]`** (M7's `dirRm`: `View.del`) -/
theorem remove_final (ip : Bool) (s : DirFS V) (next : Nat) (n : String)
    (hn : (keys s).Nodup) (hf : FreshFrom next s) (m : String) :
    valAt true (drun s (actProg true ip s next (.remove n))) (.key m) =
      if m = n then none else valAt true s (.key m) := by
  simp only [actProg, valAt, visible, if_true, get?_removeProg ip s _ _ hn (hf _ (Nat.le_refl _))]
  by_cases h : m = n <;> simp [h]

/-- the disk is readable and every name reads as `A` allows -/
def Within (A : DName → Option V → Prop) (s : DirFS V) : Prop :=
  Readable true s ∧ ∀ n, A n (valAt true s n)

theorem within_congr (A : DName → Option V → Prop) (s s' : DirFS V) (h : VisEq s s') (hw : Within A s) : Within A s' :=
  ⟨readable_congr h hw.1, fun n => by rw [← valAt_congr h n]; exact hw.2 n⟩

/-- `s'` is `s` with the entry `n` set to `e` (visible names only: staging names may differ) -/
theorem within_set (A : DName → Option V → Prop) {s s' : DirFS V} (n : String) (e : Option (DDir V))
    (h : ∀ m, get? s' (.key m) = if m = n then e else get? s (.key m))
    (he : ∀ d, e = some d → d.value.isSome = true) (hA : A (.key n) (e.bind DDir.value)) (hw : Within A s) :
    Within A s' := by
  constructor
  · intro x d hg hv
    cases x with
    | temp j => cases hv
    | key m =>
      rw [h m] at hg
      split at hg
      · exact he d hg
      · exact hw.1 _ d hg hv
  · intro x
    cases x with
    | temp j => exact hw.2 (.temp j)
    | key m =>
      simp only [valAt, visible, if_true, h m]
      split
      · next hm => rw [hm]; exact hA
      · exact hw.2 (.key m)

/-- what `A` must allow for an action: the stored value, and the entry absent - for a store as well, between the
rename aside and the rename in (F19b) -/
def ClosedFor (A : DName → Option V → Prop) : DAct V → Prop
  | .store n _ v => A (.key n) none ∧ A (.key n) (some v)
  | .remove n => A (.key n) none

/-- `_rmdir(n)`: the rename aside makes `n` read as absent; deleting the staging directory is invisible -/
theorem removeProg_crash (A : DName → Option V → Prop) (ip : Bool) (s : DirFS V) (n : String) (j : Nat)
    (hn : (keys s).Nodup) (hj : get? s (.temp j) = none) (hw : Within A s) (hA : A (.key n) none) :
    AllCrash (Within A) s (removeProg true ip s (.key n) (.temp j)) := by
  simp only [removeProg, if_true]
  have hw1 : Within A (dstep s (.rename (.key n) (.temp j))) :=
    within_set A n none (fun m => by simp [get?_rename s _ _ hn hj]) (fun _ h => nomatch h) hA hw
  exact ⟨hw, trivial, (allCrash_of_tempOnly _ (within_congr A) _ _ (rmProg_tempOnly ip _ j) (nodup_dstep s _ hn) hw1).1⟩

theorem act_crash (A : DName → Option V → Prop) (ip : Bool) (s : DirFS V) (next : Nat) (act : DAct V)
    (hn : (keys s).Nodup) (hf : FreshFrom next s) (hw : Within A s) (hc : ClosedFor A act) :
    AllCrash (Within A) s (actProg true ip s next act) := by
  have h0 := hf next (Nat.le_refl _)
  cases act with
  | remove n => exact removeProg_crash A ip s n next hn h0 hw hc
  | store n ni v =>
    have h1 := hf (next + 1) (Nat.le_succ _)
    -- `_store` is staging ++ `_rmdir(n)` ++ one rename; a reader sees a change at two calls only.
    -- 1. staging names only staging directories: invisible
    obtain ⟨c0, e0⟩ := allCrash_of_tempOnly _ (within_congr A) s _ (stageProg_tempOnly ni next v) hn hw
    -- 2. the old entry is renamed aside (`n` reads as absent) and deleted from there (invisible)
    have c1 := removeProg_crash A ip _ n (next + 1) (nodup_drun s _ hn)
      (by rw [get?_stageProg ni s _ v hn h0, if_neg (by simp), h1]) (within_congr A _ _ e0.symm hw) hc.1
    -- 3. the staged entry is renamed in: against the start only `n` has changed, and reads as `v`
    have c2 : Within A (drun s (storeProg true ip ni s (.key n) (.temp next) (.temp (next + 1)) v)) :=
      within_set A n (some (staged ni v))
        (fun m => by simp [get?_storeProg ip ni s n next (next + 1) v hn h0 h1 (Nat.ne_of_lt (Nat.lt_succ_self _))])
        (fun d h => by cases h; rw [staged_value]; rfl) (by rw [Option.bind_some, staged_value]; exact hc.2) hw
    -- 4. the crash states of the whole are those of the parts, each started where the one before ended
    exact allCrash_concat_rename _ _ _ _ _ (allCrash_append _ _ _ _ c0 c1) c2

theorem acts_crash (A : DName → Option V → Prop) (ip : Bool) (acts : List (DAct V)) (s : DirFS V) (next : Nat)
    (hn : (keys s).Nodup) (hf : FreshFrom next s) (hw : Within A s) (hc : ∀ a ∈ acts, ClosedFor A a) :
    AllCrash (Within A) s (actsProg true ip s next acts) := by
  induction acts generalizing s next with
  | nil => exact hw
  | cons a as ih =>
    have h1 := act_crash A ip s next a hn hf hw (hc a (by simp))
    -- the disk after `a` is the last crash state of `a`: `h1.final`, `h2` give the next round its hypotheses
    have h2 := (allCrash_fresh (next + 2) _ s hn (freshFrom_mono (Nat.le_add_right _ _) _ hf) (actProg_tempsBelow ip s next a)).final
    exact allCrash_append _ _ _ _ h1 (ih _ (next + 2) h2.1 h2.2 h1.final fun b hb => hc b (List.mem_cons_of_mem _ hb))

def touches (acts : List (DAct V)) (n : String) : Prop :=
  ∃ a ∈ acts, (∃ ni v, a = .store n ni v) ∨ a = .remove n

def storesVal (acts : List (DAct V)) (n : String) (v : V) : Prop := ∃ ni, DAct.store n ni v ∈ acts

/-- the allowed readings: as before the operation; or, for a touched name, one of the values being
stored — or absent -/
def allowed (s0 : DirFS V) (acts : List (DAct V)) (n : DName) (o : Option V) : Prop :=
  o = valAt true s0 n ∨ ∃ m, n = .key m ∧ touches acts m ∧ (o = none ∨ ∃ v, storesVal acts m v ∧ o = some v)

/-- **C13 for `dir_archive`, every operation, every crash point** (`_partial`: a touched name may
also read as absent — exact for removals and for names that were absent, see below) -/
theorem C13_dir_partial (ip : Bool) (acts : List (DAct V)) (s0 : DirFS V) (next : Nat)
    (hn : (keys s0).Nodup) (hf : FreshFrom next s0) (hr : Readable true s0) :
    ∀ c ∈ dirCrashStates s0 (actsProg true ip s0 next acts),
      Readable true c ∧ ∀ n, allowed s0 acts n (valAt true c n) := by
  have := acts_crash (allowed s0 acts) ip acts s0 next hn hf ⟨hr, fun n => Or.inl rfl⟩ (by
    intro a ha
    cases a with
    | store n ni v =>
      exact ⟨Or.inr ⟨n, rfl, ⟨_, ha, Or.inl ⟨ni, v, rfl⟩⟩, Or.inl rfl⟩,
             Or.inr ⟨n, rfl, ⟨_, ha, Or.inl ⟨ni, v, rfl⟩⟩, Or.inr ⟨v, ⟨ni, ha⟩, rfl⟩⟩⟩
    | remove n => exact Or.inr ⟨n, rfl, ⟨_, ha, Or.inr rfl⟩, Or.inl rfl⟩)
  exact (allCrash_iff _ _ _).mp this

/-- untouched entries read exactly as before, and nothing that was never stored appears -/
theorem C13_dir_untouched (ip : Bool) (acts : List (DAct V)) (s0 : DirFS V) (next : Nat)
    (hn : (keys s0).Nodup) (hf : FreshFrom next s0) (hr : Readable true s0)
    (c : DirFS V) (hc : c ∈ dirCrashStates s0 (actsProg true ip s0 next acts)) (n : DName)
    (hu : ∀ m, n = .key m → ¬ touches acts m) : valAt true c n = valAt true s0 n := by
  rcases (C13_dir_partial ip acts s0 next hn hf hr c hc).2 n with h | ⟨m, hm, ht, _⟩
  · exact h
  · exact absurd ht (hu m hm)

/-- removals (`__delitem__`, `pop`, `popkeys`, `popitem`, `clear`) are atomic entry by entry: each
touched name reads as before or as absent (= its new state) -/
theorem C13_dir_remove_atomic (ip : Bool) (ns : List String) (s0 : DirFS V) (next : Nat)
    (hn : (keys s0).Nodup) (hf : FreshFrom next s0) (hr : Readable true s0)
    (c : DirFS V) (hc : c ∈ dirCrashStates s0 (actsProg true ip s0 next (ns.map DAct.remove))) (n : DName) :
    valAt true c n = valAt true s0 n ∨ valAt true c n = none := by
  rcases (C13_dir_partial ip _ s0 next hn hf hr c hc).2 n with h | ⟨m, _, _, h | ⟨v, ⟨ni, hv⟩, _⟩⟩
  · exact Or.inl h
  · exact Or.inr h
  · simp at hv

/-- storing under names that were absent (`__setitem__` of a new key, `update`/`dump` of new keys) is
atomic: each such name reads as absent (its old state) or as the value stored -/
theorem C13_dir_new_key_atomic (ip : Bool) (acts : List (DAct V)) (s0 : DirFS V) (next : Nat)
    (hn : (keys s0).Nodup) (hf : FreshFrom next s0) (hr : Readable true s0)
    (c : DirFS V) (hc : c ∈ dirCrashStates s0 (actsProg true ip s0 next acts)) (m : String)
    (hnew : valAt true s0 (.key m) = none) :
    valAt true c (.key m) = valAt true s0 (.key m) ∨ ∃ v, storesVal acts m v ∧ valAt true c (.key m) = some v := by
  rcases (C13_dir_partial ip acts s0 next hn hf hr c hc).2 (.key m) with h | ⟨m', hm', _, h | ⟨v, hv, h⟩⟩
  · exact Or.inl h
  · exact Or.inl (by rw [h, hnew])
  · cases hm'; exact Or.inr ⟨v, hv, h⟩

/-- the full statement for overwrites — every touched name reads old or new — is false of the code:
between the two renames the entry is absent (known finding F19b, replayed by suite `fs`) -/
theorem C13_dir_overwrite_gap :
    ∃ c ∈ dirCrashStates ([(.key "a", { out := some (.full 1), inp := none })] : DirFS Nat)
        (actsProg true false [(.key "a", { out := some (.full 1), inp := none })] 0 [.store "a" false 2]),
      valAt true c (.key "a") = none := by
  refine ⟨[(.temp 0, { out := some (.full 2), inp := none }), (.temp 1, { out := some (.full 1), inp := none })], ?_, by decide⟩
  decide

/-- before fix F19 a crash while staging left a listed directory a reader could not load -/
theorem C13_dir_phantom_before_fix :
    ∃ c ∈ dirCrashStates ([] : DirFS Nat) (storeProg false false false [] (.key "a") (.temp 0) (.temp 1) 5),
      ¬ Readable false c := by
  refine ⟨[(.temp 0, { out := none, inp := none })], by decide, ?_⟩
  intro h
  have := h (.temp 0) { out := none, inp := none } (by decide) (by decide)
  simp [DDir.value] at this

/-- non-vacuity: a populated archive meets the hypotheses of `C13_dir_partial` -/
example : (keys ([(.key "a", { out := some (.full 1), inp := none }), (.key "7", { out := some (.full 2), inp := some (.full ()) })] : DirFS Nat)).Nodup ∧
    FreshFrom 0 ([(.key "a", { out := some (.full 1), inp := none }), (.key "7", { out := some (.full 2), inp := some (.full ()) })] : DirFS Nat) ∧
    Readable true ([(.key "a", { out := some (.full 1), inp := none }), (.key "7", { out := some (.full 2), inp := some (.full ()) })] : DirFS Nat) := by
  refine ⟨by decide, fun i _ => rfl, ?_⟩
  intro n d hg _
  simp only [get?] at hg
  split at hg
  · cases hg; rfl
  · split at hg
    · cases hg; rfl
    · cases hg

end Dir

section Sql
variable {K V : Type} [DecidableEq K]
open Backend

theorem sql_crash_prefix {α : Type} (f : α → SqlStmt K V) (g : View K V → α → View K V)
    (hfg : ∀ rows a, sqlGet (sqlExec rows (f a)) = g (sqlGet rows) a) (rows : List (K × V)) (l : List α) :
    ∀ st ∈ sqlCrashStates rows (l.map f), ∃ done, done <+: l ∧ sqlGet st = done.foldl g (sqlGet rows) := by
  induction l generalizing rows with
  | nil => intro st hst; cases List.mem_singleton.mp hst; exact ⟨[], List.prefix_refl _, rfl⟩
  | cons a l ih =>
    intro st hst
    rcases List.mem_cons.mp hst with rfl | hst
    · exact ⟨[], List.nil_prefix, rfl⟩
    · obtain ⟨done, hd, hv⟩ := ih _ st hst
      exact ⟨a :: done, (List.prefix_cons_inj a).mpr hd, by rw [hv, hfg]; rfl⟩

/-- `__setitem__` / `update` / `dump`: one committed insert per pair; killed anywhere, a fresh reader
sees some prefix of the inserts applied: every key has its old value or a value being stored, and a
key not named keeps its value -/
theorem C13_sql_set (rows : List (K × V)) (kvs : List (K × V)) :
    ∀ st ∈ sqlCrashStates rows (kvs.map fun p => SqlStmt.insert p.1 p.2),
      ∃ done, done <+: kvs ∧ sqlGet st = View.putAll (sqlGet rows) done :=
  sql_crash_prefix (fun p : K × V => .insert p.1 p.2) (fun d p => d.put p.1 p.2)
    (fun rows p => view_sqlInsertOk rows p.1 p.2) rows kvs

/-- `pop` / `__delitem__` / `popkeys` / `clear`: one committed delete per key; a kill leaves a prefix
of the deletes applied -/
theorem C13_sql_del (rows : List (K × V)) (ks : List K) :
    ∀ st ∈ sqlCrashStates rows (ks.map fun k => (SqlStmt.delete k : SqlStmt K V)),
      ∃ done, done <+: ks ∧ sqlGet st = done.foldl View.del (sqlGet rows) :=
  sql_crash_prefix .delete View.del view_sqlDelete rows ks

end Sql
end Klepto.C13
