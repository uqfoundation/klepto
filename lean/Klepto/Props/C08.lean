import Klepto.Lemmas.Retr
/-!
# C08 — Cache/archive synchronisation algebra (dump, load, sync, toggle)

Equational theorems about model M2 (`Klepto/Model/Cache.lean`), pointwise in the key
(`get?` on memory, `aget` on the attached archive).  `⊕` in the comments is right-biased overlay.
-/
namespace Klepto
open AMap

theorem foldl_fixed {σ κ : Type} {f : σ → κ → σ} {c : σ} (h : ∀ k, f c k = c) (ks : List κ) :
    ks.foldl f c = c := by
  induction ks with
  | nil => rfl
  | cons k ks ih => rw [List.foldl_cons, h, ih]

/-- folding an operation that overrides `get` at its one key by `src`, where `src` has a value, overrides `get` at
the listed keys (`load(k…)`: memory by the archive; `dump(k…)`: the archive by memory) -/
theorem foldl_override {σ κ ω : Type} [DecidableEq κ] (f : σ → κ → σ) (get src : σ → κ → Option ω)
    (hsrc : ∀ c k j, src (f c k) j = src c j)
    (hget : ∀ c k j, get (f c k) j = if j = k ∧ (src c j).isSome then src c j else get c j)
    (ks : List κ) (c : σ) (j : κ) :
    get (ks.foldl f c) j = if j ∈ ks ∧ (src c j).isSome then src c j else get c j := by
  induction ks generalizing c with
  | nil => simp
  | cons k ks ih =>
    rw [List.foldl_cons, ih, hsrc, hget]
    by_cases hk : j = k
    · subst hk; by_cases hs : (src c j).isSome <;> simp [hs]
    · simp [hk]

variable {K V : Type}

theorem archivedOff_eq (c : Cache K V) (hs : c.swap = none) (hb : c.bare = false) :
    c.archivedOff = some { c with arch := none, swap := c.arch } := by
  obtain ⟨m, a, sw, b⟩ := c
  subst hs hb
  cases a <;> rfl

variable [DecidableEq K]

section NoArchive
variable {c : Cache K V} (h : c.arch = none)
include h
theorem dump1_of_arch_none (k : K) : c.dump1 k = c := by unfold Cache.dump1; rw [h]
theorem load1_of_arch_none (k : K) : c.load1 k = c := by unfold Cache.load1; rw [h]
theorem dumpAll_of_arch_none : c.dumpAll = c := by unfold Cache.dumpAll; rw [h]
theorem loadAll_of_arch_none : c.loadAll = c := by unfold Cache.loadAll; rw [h]
theorem dumpKeys_of_arch_none (ks : List K) : c.dumpKeys ks = c := foldl_fixed (dump1_of_arch_none h) ks
theorem loadKeys_of_arch_none (ks : List K) : c.loadKeys ks = c := foldl_fixed (load1_of_arch_none h) ks
theorem sync_of_arch_none (clear : Bool) : c.sync clear = c := by
  unfold Cache.sync; rw [h, dumpAll_of_arch_none h, loadAll_of_arch_none h]; simp
end NoArchive

theorem get?_load1 (c : Cache K V) (k j : K) :
    get? (c.load1 k).mem j = if j = k ∧ (c.aget j).isSome then c.aget j else get? c.mem j := by
  rw [load1_eq]
  by_cases hjk : j = k
  · subst hjk; cases c.aget j <;> simp [get?_put]
  · cases c.aget k <;> simp [get?_put, hjk]

end Klepto

namespace Klepto.C08
open AMap
set_option linter.unusedSectionVars false
variable {K V : Type} [DecidableEq K]

/-- plain dict operations never touch the archive -/
theorem C08_dict_ops_frame (c : Cache K V) (k : K) (v : V) :
    ((c.step (.put k v)).1.arch = c.arch ∧ (c.step (.put k v)).1.swap = c.swap) ∧
    ((c.step (.del k)).1.arch = c.arch ∧ (c.step (.del k)).1.swap = c.swap) ∧
    ((c.step (.pop k)).1.arch = c.arch ∧ (c.step (.pop k)).1.swap = c.swap) ∧
    ((c.step .clearMem).1.arch = c.arch ∧ (c.step .clearMem).1.swap = c.swap) := by
  refine ⟨⟨rfl, rfl⟩, ?_, ?_, ⟨rfl, rfl⟩⟩ <;>
    (dsimp only [Cache.step]; split <;> exact ⟨rfl, rfl⟩)

/-- `dump()`: `arch' = arch ⊕ mem`; memory unchanged -/
theorem C08_dumpAll (c : Cache K V) (j : K) (hn : (keys c.mem).Nodup) (ha : c.archived = true) :
    c.dumpAll.aget j = (match get? c.mem j with | some v => some v | none => c.aget j) ∧
    c.dumpAll.mem = c.mem := by
  obtain ⟨a, haa⟩ := (archived_iff c).mp ha
  refine ⟨?_, dumpAll_mem c⟩
  rw [aget_dumpAll _ _ hn, haa]
  rfl

/-- `dump(k…)`: only the listed keys that are resident are written; all other archive entries are
left alone -/
theorem C08_dumpKeys (c : Cache K V) (ks : List K) (j : K) (ha : c.archived = true) :
    (c.dumpKeys ks).aget j = (if j ∈ ks ∧ (get? c.mem j).isSome then get? c.mem j else c.aget j) ∧
    (c.dumpKeys ks).mem = c.mem := by
  -- the source of a dump is memory, while archiving is on
  have h := foldl_override Cache.dump1 Cache.aget (fun c j => if c.archived then get? c.mem j else none)
    (fun c k j => by simp)
    (fun c k j => by
      rw [C07.dump_only_resident]
      by_cases hjk : j = k
      · subst hjk; cases c.archived <;> simp
      · simp [hjk])
    ks c j
  simp only [ha, if_true] at h
  exact ⟨h, dumpKeys_mem c ks⟩

/-- `load()`: `mem' = mem ⊕ arch`; archive unchanged -/
theorem C08_loadAll (c : Cache K V) (j : K) (han : ArchNodup c) :
    get? c.loadAll.mem j = (match c.aget j with | some v => some v | none => get? c.mem j) ∧
    c.loadAll.arch = c.arch := by
  refine ⟨?_, by simp⟩
  unfold Cache.loadAll
  cases ha : c.arch with
  | none => simp [Cache.aget, ha]
  | some a => simp only [Cache.aget, ha]; rw [get?_update_nodup _ _ _ (han a ha)]; cases get? a j <;> rfl

/-- `load(k…)`: only the listed keys are fetched, absent ones are ignored -/
theorem C08_loadKeys (c : Cache K V) (ks : List K) (j : K) :
    get? (c.loadKeys ks).mem j = (if j ∈ ks ∧ (c.aget j).isSome then c.aget j else get? c.mem j) ∧
    (c.loadKeys ks).arch = c.arch :=
  ⟨foldl_override Cache.load1 (fun c => get? c.mem) Cache.aget (fun c k => aget_congr (load1_arch c k)) get?_load1 ks c j,
   (loadRel_loadKeys c ks).arch⟩

/-- `sync()`: cache and archive both end up as `arch ⊕ mem` -/
theorem C08_sync (c : Cache K V) (j : K) (hn : (keys c.mem).Nodup) (han : ArchNodup c)
    (ha : c.archived = true) (hb : c.bare = false) :
    let r := match get? c.mem j with | some v => some v | none => c.aget j
    (c.sync false).aget j = r ∧ get? (c.sync false).mem j = r := by
  simp only [Cache.sync, hb, Bool.false_eq_true, if_false]
  have h1 := (C08_dumpAll c j hn ha).1
  have h2 := (C08_loadAll c.dumpAll j (archNodup_dumpAll c han)).1
  simp only [dumpAll_mem] at h2 ⊢
  constructor
  · simpa [Cache.aget] using h1
  · rw [h2, h1]
    cases get? c.mem j <;> cases c.aget j <;> rfl

/-- `sync(clear=True)`: the archive becomes exactly the cache; the cache is unchanged -/
theorem C08_sync_clear (c : Cache K V) (j : K) (hn : (keys c.mem).Nodup)
    (ha : c.archived = true) (hb : c.bare = false) :
    (c.sync true).aget j = get? c.mem j ∧ (c.sync true).mem = c.mem := by
  obtain ⟨a, haa⟩ := (archived_iff c).mp ha
  simp only [Cache.sync, hb, Bool.false_eq_true, if_false, if_true, haa]
  refine ⟨?_, by simp⟩
  rw [aget_dumpAll _ _ (by simpa using hn)]
  cases get? c.mem j <;> simp [Cache.aget, get?]

/-- switching archiving off parks the archive; `dump`/`load`/`sync` then do nothing and the parked
archive is untouched -/
theorem C08_off (c c' : Cache K V) (h : c.archivedOff = some c') (hs : c.swap = none) (hb : c.bare = false) :
    c'.arch = none ∧ c'.swap = c.arch ∧ c'.mem = c.mem ∧
    c'.dumpAll = c' ∧ c'.loadAll = c' ∧ (∀ ks, c'.dumpKeys ks = c' ∧ c'.loadKeys ks = c') ∧ c'.sync false = c' := by
  rw [archivedOff_eq c hs hb] at h
  cases h
  exact ⟨rfl, rfl, rfl, dumpAll_of_arch_none rfl, loadAll_of_arch_none rfl,
    fun ks => ⟨dumpKeys_of_arch_none rfl ks, loadKeys_of_arch_none rfl ks⟩, sync_of_arch_none rfl false⟩

/-- … until it is switched back on: `archived(True)` after `archived(False)` restores the archive -/
theorem C08_off_on (c c' c'' : Cache K V) (ha : c.arch ≠ none) (hs : c.swap = none) (hb : c.bare = false)
    (h1 : c.archivedOff = some c') (h2 : c'.archivedOn = some c'') : c'' = c := by
  rw [archivedOff_eq c hs hb] at h1
  cases h1
  obtain ⟨m, a, sw, b⟩ := c
  subst hs hb
  cases a with
  | none => exact absurd rfl ha
  | some a => cases h2; rfl

/-- `archived(True)` with nothing parked and no archive: `ValueError` -/
theorem C08_on_nothing (c : Cache K V) (ha : c.arch = none) (hs : c.swap = none) : c.archivedOn = none := by
  unfold Cache.archivedOn; simp [ha, hs]

/-- a null archive stays empty under every dict operation, `dump`, `load`, `sync` and external write -/
theorem C08_null_stays_empty (c : Cache K V) (op : COp K V) (ha : c.arch = none) (hs : c.swap = none)
    (hop : match op with | .on | .openA _ | .setA _ | .drop => False | _ => True) :
    (c.step op).1.arch = none := by
  have same : ∀ c' : Cache K V, c' = c → c'.arch = none := fun _ h => h ▸ ha
  cases op with
  | put | clearMem => exact ha
  | del | pop => dsimp only [Cache.step]; split <;> exact ha
  | load ks => exact (loadRel_loadKeys c ks).arch.trans ha
  | loadAll => exact (loadAll_arch c).trans ha
  | dump ks => exact same _ (dumpKeys_of_arch_none ha ks)
  | dumpAll => exact same _ (dumpAll_of_arch_none ha)
  | sync clear => exact same _ (sync_of_arch_none ha clear)
  | off => dsimp only [Cache.step, Cache.archivedOff]; rw [ha]; cases c.bare <;> exact ha
  | aput => dsimp only [Cache.step, Cache.extPut]; rw [ha]; exact ha
  | adel => dsimp only [Cache.step]; rw [ha]; exact ha
  | on | openA | setA | drop => exact hop.elim

section Examples
def c0 : Cache Nat Nat := { mem := [(1, 10), (2, 20)], arch := some [(2, 99), (3, 30)], swap := none }
example : (c0.step .dumpAll).1.arch = some [(2, 20), (3, 30), (1, 10)] := by decide
example : (c0.step .loadAll).1.mem = [(1, 10), (2, 99), (3, 30)] := by decide
example : (c0.step (.sync true)).1.arch = some [(1, 10), (2, 20)] := by decide
example : ((c0.step .off).1.step .dumpAll).1 = (c0.step .off).1 := by decide
end Examples

end Klepto.C08
