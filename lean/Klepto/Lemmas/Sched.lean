import Klepto.Model.Sched
import Klepto.Lemmas.FS
/-!
Lemmas for C14: calls that name different directories commute (from `vstep_frame`/`vstep_local` of
`Lemmas/FS.lean`), so an interleaving of two programs on disjoint names ends where running one after
the other ends, and each program's names read as that program alone left them.
-/
namespace Klepto.Sched
open Crash
variable {V : Type}

def Indep (x y : DSys V) : Prop := ∀ a ∈ sysNames x, ∀ b ∈ sysNames y, a ≠ b

theorem Indep.symm {x y : DSys V} (h : Indep x y) : Indep y x := fun a ha b hb e => h b hb a ha e.symm

/-- **calls on different names commute** -/
theorem vstep_comm (d : DView V) (x y : DSys V) (h : Indep x y) : vstep (vstep d x) y = vstep (vstep d y) x := by
  funext m
  by_cases hx : m ∈ sysNames x
  · have hy : m ∉ sysNames y := fun hy => h m hx m hy rfl
    rw [vstep_frame _ y m hy]
    exact (vstep_local _ _ x (fun n hn => (vstep_frame d y n (fun hny => h n hn n hny rfl)).symm) m hx)
  · by_cases hy : m ∈ sysNames y
    · rw [vstep_frame _ x m hx]
      exact (vstep_local _ _ y (fun n hn => vstep_frame d x n (fun hnx => h n hnx n hn rfl)) m hy)
    · rw [vstep_frame _ y m hy, vstep_frame _ x m hx, vstep_frame _ x m hx, vstep_frame _ y m hy]

inductive Interleave {α : Type} : List α → List α → List α → Prop
  | nil : Interleave [] [] []
  | left (x p q l) : Interleave p q l → Interleave (x :: p) q (x :: l)
  | right (y p q l) : Interleave p q l → Interleave p (y :: q) (y :: l)

theorem Interleave.symm {α : Type} {p q l : List α} (h : Interleave p q l) : Interleave q p l := by
  induction h with
  | nil => exact .nil
  | left x p q l _ ih => exact .right x _ _ _ ih
  | right y p q l _ ih => exact .left y _ _ _ ih

theorem foldl_swap {σ α : Type} (f : σ → α → σ) (y : α) (p : List α) (h : ∀ x ∈ p, ∀ d, f (f d x) y = f (f d y) x) (d : σ) :
    p.foldl f (f d y) = f (p.foldl f d) y := by
  induction p generalizing d with
  | nil => rfl
  | cons x xs ih =>
    rw [List.foldl_cons, List.foldl_cons, ← h x (by simp), ih (fun z hz => h z (List.mem_cons_of_mem _ hz))]

theorem foldl_interleave {σ α : Type} (f : σ → α → σ) (p q l : List α) (hi : Interleave p q l)
    (h : ∀ x ∈ p, ∀ y ∈ q, ∀ d, f (f d x) y = f (f d y) x) (d : σ) : l.foldl f d = q.foldl f (p.foldl f d) := by
  induction hi generalizing d with
  | nil => rfl
  | left x p q l _ ih => exact ih (fun a ha b hb => h a (List.mem_cons_of_mem _ ha) b hb) _
  | right y p q l _ ih =>
    rw [List.foldl_cons, ih (fun a ha b hb => h a ha b (List.mem_cons_of_mem _ hb)), List.foldl_cons,
      foldl_swap f y p (fun x hx => h x hx y (by simp))]

/-- **every interleaving of two programs on disjoint names ends where running one after the other ends** -/
theorem vrun_interleave (d : DView V) (p q l : List (DSys V)) (hi : Interleave p q l)
    (h : ∀ x ∈ p, ∀ y ∈ q, Indep x y) : vrun d l = vrun (vrun d p) q :=
  foldl_interleave vstep p q l hi (fun x hx y hy d => vstep_comm d x y (h x hx y hy)) d

theorem interleave_take {α : Type} (p q l : List α) (hi : Interleave p q l) (k : Nat) :
    ∃ i j, Interleave (p.take i) (q.take j) (l.take k) := by
  induction hi generalizing k with
  | nil => exact ⟨0, 0, by simpa using Interleave.nil⟩
  | left x p q l _ ih =>
    cases k with
    | zero => exact ⟨0, 0, .nil⟩
    | succ k =>
      obtain ⟨i, j, h⟩ := ih k
      exact ⟨i + 1, j, .left x _ _ _ h⟩
  | right y p q l _ ih =>
    cases k with
    | zero => exact ⟨0, 0, .nil⟩
    | succ k =>
      obtain ⟨i, j, h⟩ := ih k
      exact ⟨i, j + 1, .right y _ _ _ h⟩

/-- a name `q` does not mention reads, after the interleaving, as `p` alone left it (the other way round with `Interleave.symm` and
`Indep.symm`) -/
theorem interleave_frame (d : DView V) (p q l : List (DSys V)) (hi : Interleave p q l) (h : ∀ x ∈ p, ∀ y ∈ q, Indep x y)
    (a : DName) (ha : ∀ y ∈ q, a ∉ sysNames y) : vrun d l a = vrun d p a := by
  rw [vrun_interleave d p q l hi h]; exact vrun_frame _ q a ha

end Klepto.Sched
