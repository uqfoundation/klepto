import Klepto.Lemmas.Keygen
import Klepto.Model.Validate
/-!
# C19 — validate/isvalid agree with Python's own argument binding

`bind` (M4) is the specification — CPython's binding; `validate` (M6) is the code.  Both are brought into the same
normal form, a list of conditions on the parameters (`validate_plain`, `bindPlain_eq`), and compared.  The
equivalence is proved for plain functions (`C19_plain_kwonly`); bound methods are reduced to them in `C19Bound`.
Findings F17, F30 (repaired) are pinned by the examples at the end and replayed on the implementation.
-/
namespace Klepto.C19
open Klepto.Keys Klepto.AMap
variable {Val : Type} [DecidableEq Val]

/-- `validate` never calls the function: it is a function of the signature description and the
call alone (the model has no access to the function body) -/
theorem validate_no_call (f : Func Val) (c : PCall Val) : ∃ b : Bool, validate f c = b := ⟨_, rfl⟩

theorem isEmpty_inter (a b : List Val) : (inter a b).isEmpty = true ↔ ∀ x ∈ a, x ∉ b := by
  simp [inter, List.isEmpty_iff, List.filter_eq_nil_iff]

theorem isEmpty_diff (a b : List Val) : (diff a b).isEmpty = true ↔ ∀ x ∈ a, x ∈ b := by
  simp [diff, List.isEmpty_iff, List.filter_eq_nil_iff]

theorem mem_diff (a b : List Val) (x : Val) : x ∈ diff a b ↔ x ∈ a ∧ x ∉ b := by
  simp [diff, List.mem_filter]

theorem sigMarked_plain (f : Func Val) (hpl : Plain f) :
    sigMarked f = some ((names f.pos).map (·, false), update (defaultsOf f.pos) (defaultsOf f.kwonly), []) := by
  obtain ⟨h1, h2, h3⟩ := hpl
  simp [sigMarked, h1, h2, h3, has, get?, keys, update, filter_true]

/-- `validate` of a plain function: five of the ten checks hold trivially; the other five, as propositions about the
parameters -/
theorem validate_plain (f : Func Val) (c : PCall Val) (hpl : Plain f) :
    validate f c = true ↔
      (c.args.length ≤ f.pos.length ∨ f.varargs = true) ∧
      ((∀ n ∈ keys c.kwds, isExtra f n = false) ∨ f.varkw = true) ∧
      (∀ p ∈ f.pos.take c.args.length, p.name ∉ keys c.kwds) ∧
      (∀ p ∈ f.pos, p.name ∉ keys (update (defaultsOf f.pos) (defaultsOf f.kwonly)) →
        p.name ∈ keys c.kwds ∨ p.name ∈ names (f.pos.take c.args.length)) ∧
      (∀ p ∈ f.kwonly, p.name ∈ keys (update (defaultsOf f.pos) (defaultsOf f.kwonly)) ∨ p.name ∈ keys c.kwds) := by
  have hn : ((names f.pos).map (·, false)).map (·.1) = names f.pos := by simp [Function.comp_def]
  have hb : (((names f.pos).map (·, false)).filter (·.2)).map (·.1) = [] := by
    simp only [List.map_eq_nil_iff, List.filter_eq_nil_iff, List.forall_mem_map, Bool.false_eq_true, not_false_eq_true,
      implies_true]
  have hl : (names f.pos).length = f.pos.length := by simp [names]
  have kn : keys ([] : List (Val × Val)) = [] := rfl
  have hd : ∀ (l : List Val) n, (l.drop n).isEmpty = true ↔ l.length ≤ n := fun l n => by
    rw [List.isEmpty_iff, List.drop_eq_nil_iff]
  have ht : (names f.pos).take c.args.length = names (f.pos.take c.args.length) := List.map_take.symm
  obtain ⟨h1, h2, h3⟩ := hpl
  simp only [validate, sigMarked_plain f ⟨h1, h2, h3⟩, vchecks, VChecks.all, hn, hb, h1, h2, h3, hl, keys_zip,
    Bool.and_eq_true, Bool.or_eq_true, isEmpty_inter, isEmpty_diff, hd,
    List.all_eq_true, mem_diff, List.contains_eq_mem, decide_eq_true_eq, and_imp, and_assoc,
    kn, List.not_mem_nil, false_imp_iff, implies_true, true_or, List.length_nil, Nat.zero_le, true_and,
    Bool.false_and, Bool.not_false, isExtra_eq_false, ht]
  simp only [names, List.forall_mem_map]

/-- **C19 (plain functions, keyword-only parameters included)**: `validate` succeeds exactly when CPython's binding succeeds. -/
theorem C19_plain_kwonly (self : Val) (f : Func Val) (c : PCall Val)
    (hpl : Plain f) (hnd : (names f.pos ++ names f.kwonly).Nodup) (hk : (keys c.kwds).Nodup) :
    validate f c = true ↔ (bind self f c).isSome = true := by
  -- the signature's defaults dict knows exactly the parameters that have a default
  have hD : ∀ p, p ∈ f.pos ∨ p ∈ f.kwonly →
      (p.name ∈ keys (update (defaultsOf f.pos) (defaultsOf f.kwonly)) ↔ p.dflt.isSome = true) := fun p hp => by
    rw [update_defaultsOf _ _ hnd]
    exact mem_keys_defaultsOf _ (names_append f.pos f.kwonly ▸ hnd) p (List.mem_append.mpr hp)
  -- a parameter beyond the positional arguments does not share its name with one they reach
  have hsplit : ∀ p ∈ f.pos.drop c.args.length, p.name ∉ names (f.pos.take c.args.length) := by
    have h := (List.nodup_append.mp hnd).1
    rw [← List.take_append_drop c.args.length f.pos, names, List.map_append] at h
    intro p hp hm
    exact (List.nodup_append.mp h).2.2 _ hm _ (List.mem_map_of_mem hp) rfl
  rw [validate_plain f c hpl, bind_plain self f c hpl hk, bindPlain_eq, Option.isSome_ite, List.forall_mem_append]
  refine and_congr_right fun _ => and_congr_right fun _ => and_congr_right fun _ => and_congr ?_ ?_
  · constructor
    · intro h p hp
      have hp' := List.mem_of_mem_drop hp
      by_cases hd : p.dflt.isSome = true
      · exact Or.inr hd
      · exact Or.inl ((h p hp' fun hm => hd ((hD p (Or.inl hp')).mp hm)).resolve_right (hsplit p hp))
    · intro h p hp hnD
      rw [← List.take_append_drop c.args.length f.pos] at hp
      rcases List.mem_append.mp hp with hp | hp
      · exact Or.inr (List.mem_map_of_mem hp)
      · exact Or.inl ((h p hp).resolve_right fun hd => hnD ((hD p (Or.inl (List.mem_of_mem_drop hp))).mpr hd))
  · exact forall₂_congr fun p hp => by rw [hD p (Or.inr hp), or_comm]

/-- **C19 (plain functions without keyword-only parameters)**: for every signature shape
(any number of positional-or-keyword parameters, any suffix defaulted, `*args`, `**kw`) and every
call (any arity, unknown / duplicate keywords): `validate` succeeds — `isvalid` is `True` —
exactly when CPython's binding succeeds. -/
theorem C19_plain_partial (self : Val) (f : Func Val) (c : PCall Val)
    (hpl : Plain f) (hko : f.kwonly = []) (hnd : (names f.pos).Nodup) (hk : (keys c.kwds).Nodup) :
    validate f c = true ↔ (bind self f c).isSome = true :=
  C19_plain_kwonly self f c hpl (by rw [hko]; simpa [names] using hnd) hk

section Examples
/-- objects: 10 = 'a', 11 = 'b', 12 = 'c'; values 20, 21, 22 -/
def q : Func Nat := { pos := [⟨10, none⟩], varargs := false, kwonly := [⟨12, none⟩], varkw := false }
/-- **F17a, repaired** `def q(a, *, c)`: `isvalid(q, 1)` is `False` - the required keyword-only `c` is missing
(before the repair `validate` did not know keyword-only parameters and said `True`) … -/
example : validate q { args := [20], kwds := [] } = false ∧ bind 0 q { args := [20], kwds := [] } = none := by decide
/-- … and `isvalid(q, 1, c=1)` is `True` (it used to be rejected as an unexpected keyword) -/
example : validate q { args := [20], kwds := [(12, 21)] } = true ∧
    (bind 0 q { args := [20], kwds := [(12, 21)] }).isSome = true := by decide
/-- **F17b, repaired** `def r(a, b=5)`; `partial(r, 1, 2)()` is a valid call and `isvalid` says so (the fixed positionals
are counted against all named parameters, not only the required ones) -/
def r : Func Nat := { pos := [⟨10, none⟩, ⟨11, some 25⟩], varargs := false, kwonly := [], varkw := false, pArgs := [20, 21] }
example : validate r { args := [], kwds := [] } = true ∧ (bind 0 r { args := [], kwds := [] }).isSome = true := by decide
/-- … while a third fixed positional still needs `*args` -/
example : validate { r with pArgs := [20, 21, 22] } { args := [], kwds := [] } = false ∧
    bind 0 { r with pArgs := [20, 21, 22] } { args := [], kwds := [] } = none := by decide
/-- **F30, repaired**: a partial over a *bound method* `m(self, x, **kw)`: `partial(inst.m, 1)(x=2)` binds `x`
twice; the fixed positional is matched against `x` (not against `self`, as it was before the repair), so `validate`
now rejects the call as CPython does - and still accepts the valid `partial(inst.m, 1)(q=2)` -/
def m : Func Nat := { pos := [⟨9, none⟩, ⟨10, none⟩], varargs := false, kwonly := [], varkw := true, pArgs := [20], bound := true }
example : validate m { args := [], kwds := [(10, 21)] } = false ∧ bind 0 m { args := [], kwds := [(10, 21)] } = none := by decide
example : validate m { args := [], kwds := [(13, 21)] } = true ∧ (bind 0 m { args := [], kwds := [(13, 21)] }).isSome = true := by decide
/-- non-vacuity of `C19_plain_partial`: a plain `def f(a, b=5, *args, **kw)` -/
def f0 : Func Nat := { pos := [⟨10, none⟩, ⟨11, some 25⟩], varargs := true, kwonly := [], varkw := true }
example : Plain f0 ∧ f0.kwonly = [] ∧ (names f0.pos).Nodup := by unfold Plain; decide
end Examples

/-- non-vacuity: `def f(a, b=5, *args, k, m=7, **kw)` -/
example : Plain ({ pos := [⟨10, none⟩, ⟨11, some 25⟩], varargs := true, kwonly := [⟨12, none⟩, ⟨13, some 27⟩], varkw := true } : Func Nat) ∧
    (names ([⟨10, none⟩, ⟨11, some 25⟩] : List (Param Nat)) ++ names ([⟨12, none⟩, ⟨13, some 27⟩] : List (Param Nat))).Nodup := by
  unfold Plain; decide

end Klepto.C19
