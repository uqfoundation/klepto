import Klepto.Lemmas.Basic
/-!
# C20 — A pickled cached function resumes exactly where the original was

Model: a restored copy is a *value copy* of the wrapper state (`St`), because every piece of the
closure state (cache dict, parked archive, recency queue, reference / use counts, statistics,
configuration) is a value in M3.  An in-memory archive is copied with it; a persistent archive is a
handle to shared storage (`Pair.shared`).  The theorems are thin — determinism of `step` — and are
labelled so; the property is decided mainly by suite `clone`, which checks that dill really restores
every component and then runs the continuation on the copy against this model.
-/
namespace Klepto.C20
set_option linter.unusedSectionVars false
variable {K V : Type} [DecidableEq K]

def clone (s : St K V) : St K V := s

/-- **lock-step**: from the round-trip on, the copy returns the same results, evicts the same
entries and reports the same statistics as the original would have (rr: given the same choices) -/
theorem C20_lockstep (cfg : Cfg) (s : St K V) (ops : List (Op K V)) :
    run cfg (clone s) ops = run cfg s ops := rfl

theorem C20_equal_state (s : St K V) :
    (clone s).c.mem = s.c.mem ∧ (clone s).stats = s.stats ∧ (clone s).c.arch = s.c.arch ∧
    (clone s).c.swap = s.c.swap ∧ (clone s).queue = s.queue ∧ (clone s).rc = s.rc ∧ (clone s).uc = s.uc :=
  ⟨rfl, rfl, rfl, rfl, rfl, rfl, rfl⟩

/-- two wrappers side by side; `shared`: both archives are handles to one persistent store -/
structure Pair (K V : Type) where
  orig : St K V
  copy : St K V
  shared : Bool

/-- an operation on the copy; with a shared store the original's handle sees the new contents -/
def Pair.stepCopy (cfg : Cfg) (p : Pair K V) (op : Op K V) : Pair K V × Out V :=
  let r := step cfg p.copy op
  ({ p with copy := r.1,
            orig := if p.shared then { p.orig with c := { p.orig.c with arch := r.1.c.arch } } else p.orig }, r.2)

/-- **independence**: whatever is done with the copy, the original's in-memory state — cache
contents, bookkeeping, statistics — is untouched; with an in-memory archive the archive too -/
theorem C20_independent (cfg : Cfg) (p : Pair K V) (op : Op K V) :
    (p.stepCopy cfg op).1.orig.c.mem = p.orig.c.mem ∧
    (p.stepCopy cfg op).1.orig.queue = p.orig.queue ∧ (p.stepCopy cfg op).1.orig.uc = p.orig.uc ∧
    (p.stepCopy cfg op).1.orig.rc = p.orig.rc ∧
    ((p.stepCopy cfg op).1.orig.hit, (p.stepCopy cfg op).1.orig.miss, (p.stepCopy cfg op).1.orig.load)
      = (p.orig.hit, p.orig.miss, p.orig.load) ∧
    (p.shared = false → (p.stepCopy cfg op).1.orig = p.orig) := by
  unfold Pair.stepCopy
  cases p.shared <;> simp

/-- **shared storage**: with a persistent archive both handles see the one store -/
theorem C20_shared_store (cfg : Cfg) (p : Pair K V) (op : Op K V) (h : p.shared = true) :
    (p.stepCopy cfg op).1.orig.c.arch = (p.stepCopy cfg op).1.copy.c.arch := by
  unfold Pair.stepCopy; simp [h]

section Examples
def lru2 : Cfg := { algo := .lru, safe := false, maxsize := 2, purge := false }
def mk (k v : Nat) : Op Nat Nat := .call { key := .ok k, fn := .ok v, victim := none }
def s0 : St Nat Nat := (run lru2 (St.init { mem := [], arch := some [], swap := none }) [mk 1 10, mk 2 20, mk 1 10]).1
/-- after the round-trip the next overflow evicts the same entry (2, not the re-used 1) -/
example : (run lru2 (clone s0) [mk 3 30]).1.c.mem = [(1, 10), (3, 30)] := by decide
end Examples

end Klepto.C20
