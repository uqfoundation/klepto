import Klepto.Lemmas.Lru
import Klepto.Lemmas.Retr
/-! The bookkeeping invariant `WF` of M3 and its preservation by every operation of the
wrapper alphabet.  `mru` with `purge` is excluded (`MruNoPurge`): after a purge the code appends the
current key to the (just cleared) recency queue although the entry is no longer resident
(finding F27), so "tracked keys are resident" is not an invariant of that configuration. -/
namespace Klepto
open AMap
variable {K V : Type} [DecidableEq K]

/-- tracked keys are resident; lru's refcount counts the queue (`RcInv`), mru's queue has no repeats, and the bookkeeping
of the algorithms that do not own it stays empty (`queueNil`, `ucNil`) -/
structure WF (cfg : Cfg) (s : St K V) : Prop where
  memNodup : (keys s.c.mem).Nodup
  queueRes : ∀ k ∈ s.queue, has s.c.mem k = true
  ucRes : ∀ k ∈ keys s.uc, has s.c.mem k = true
  ucNodup : (keys s.uc).Nodup
  rcNodup : (keys s.rc).Nodup
  rcInv : cfg.algo = .lru → RcInv s.queue s.rc
  mruNodup : cfg.algo = .mru → s.queue.Nodup
  queueNil : cfg.algo ≠ .lru → cfg.algo ≠ .mru → s.queue = []
  ucNil : cfg.algo ≠ .lfu → s.uc = []

/-- the configuration in which `WF` is inductive -/
def MruNoPurge (cfg : Cfg) : Prop := cfg.algo = .mru → cfg.purge = false

/-! `WF` is built from its fields only in the lemmas up to `WF.setQueue`: with nothing tracked, and from a well-formed
state when the counters, the cache, or the bookkeeping owned by the algorithm at hand change. -/

theorem wf_nil (cfg : Cfg) {s : St K V} (hn : (keys s.c.mem).Nodup) (hq : s.queue = []) (hrc : s.rc = [])
    (huc : s.uc = []) : WF cfg s :=
  ⟨hn, by simp [hq], by simp [huc, keys], by simp [huc, keys], by simp [hrc, keys],
   fun _ k => by simp [hq, hrc, cget, get?], fun _ => by simp [hq], fun _ _ => hq, fun _ => huc⟩

theorem wf_init (cfg : Cfg) (c : Cache K V) (h : (keys c.mem).Nodup) : WF cfg (St.init c) :=
  wf_nil cfg h rfl rfl rfl

theorem wf_stats {cfg : Cfg} {s : St K V} (a b c : Nat) (h : WF cfg s) :
    WF cfg { s with hit := a, miss := b, load := c } :=
  ⟨h.memNodup, h.queueRes, h.ucRes, h.ucNodup, h.rcNodup, h.rcInv, h.mruNodup, h.queueNil, h.ucNil⟩

theorem WF.setCache {cfg : Cfg} {s : St K V} (h : WF cfg s) (c' : Cache K V) (hn : (keys c'.mem).Nodup)
    (hq : ∀ k ∈ s.queue, has c'.mem k = true) (hu : ∀ k ∈ keys s.uc, has c'.mem k = true) :
    WF cfg { s with c := c' } :=
  ⟨hn, hq, hu, h.ucNodup, h.rcNodup, h.rcInv, h.mruNodup, h.queueNil, h.ucNil⟩

theorem WF.setUc {cfg : Cfg} {s : St K V} (h : WF cfg s) (ha : cfg.algo = .lfu) (uc : List (K × Nat))
    (hn : (keys uc).Nodup) (hr : ∀ k ∈ keys uc, has s.c.mem k = true) : WF cfg { s with uc := uc } :=
  ⟨h.memNodup, h.queueRes, hr, hn, h.rcNodup, h.rcInv, h.mruNodup, h.queueNil, fun hl => absurd ha hl⟩

theorem WF.setQueueRc {cfg : Cfg} {s : St K V} (h : WF cfg s) (ha : cfg.algo = .lru) (q : List K)
    (rc : List (K × Int)) (hr : ∀ k ∈ q, has s.c.mem k = true) (hn : (keys rc).Nodup) (hi : RcInv q rc) :
    WF cfg { s with queue := q, rc := rc } :=
  ⟨h.memNodup, hr, h.ucRes, h.ucNodup, hn, fun _ => hi, fun hm => (nomatch ha.symm.trans hm),
   fun hl => absurd ha hl, h.ucNil⟩

theorem WF.setQueue {cfg : Cfg} {s : St K V} (h : WF cfg s) (ha : cfg.algo = .mru) (q : List K)
    (hr : ∀ k ∈ q, has s.c.mem k = true) (hn : q.Nodup) : WF cfg { s with queue := q } :=
  ⟨h.memNodup, hr, h.ucRes, h.ucNodup, h.rcNodup, fun hl => (nomatch ha.symm.trans hl), fun _ => hn,
   fun _ hm => absurd ha hm, h.ucNil⟩

theorem WF.not_mem_uc {cfg : Cfg} {s : St K V} (h : WF cfg s) (ha : cfg.algo ≠ .lfu) (k : K) : k ∉ keys s.uc := by
  simp [h.ucNil ha, keys]

theorem wf_of_mem_grow {cfg : Cfg} {s : St K V} (c' : Cache K V) (h : WF cfg s)
    (hn : (keys c'.mem).Nodup) (hsub : ∀ j, has s.c.mem j = true → has c'.mem j = true) :
    WF cfg { s with c := c' } :=
  h.setCache c' hn (fun k hk => hsub k (h.queueRes k hk)) (fun k hk => hsub k (h.ucRes k hk))

theorem wf_evict {cfg : Cfg} {s : St K V} (k : K) (h : WF cfg s) (hq : k ∉ s.queue) (hu : k ∉ keys s.uc) :
    WF cfg (evictOne s k) := by
  have hres : ∀ l : List K, k ∉ l → (∀ j ∈ l, has s.c.mem j = true) → ∀ j ∈ l, has (evictOne s k).c.mem j = true := by
    intro l hk hl j hj
    rw [evictOne_mem, has_erase _ _ _ h.memNodup, hl j hj]
    simp [show j ≠ k from fun e => hk (e ▸ hj)]
  exact h.setCache _ (by rw [delMem_mem, dump1_mem]; exact nodup_keys_erase _ _ h.memNodup)
    (hres _ hq h.queueRes) (hres _ hu h.ucRes)

theorem wf_useKey {cfg : Cfg} {s : St K V} (k : K) (h : WF cfg s) (hk : has s.c.mem k = true) :
    WF cfg (useKey cfg s k) := by
  unfold useKey
  split
  · next ha =>
    refine h.setUc ha _ (nodup_keys_put _ _ _ h.ucNodup) fun j hj => ?_
    rcases (mem_keys_put _ _ _ j).mp hj with rfl | hj
    · exact hk
    · exact h.ucRes j hj
  · next ha =>
    exact h.setQueueRc ha _ _ (List.forall_mem_append.mpr ⟨h.queueRes, List.forall_mem_singleton.mpr hk⟩)
      (nodup_keys_put _ _ _ h.rcNodup) (rcInv_use k (h.rcInv ha))
  · exact h

theorem wf_lfu_evict {cfg : Cfg} {s : St K V} (k : K) (h : WF cfg s) (ha : cfg.algo = .lfu) :
    WF cfg { evictOne s k with uc := erase s.uc k } := by
  have hq : s.queue = [] := h.queueNil (by simp [ha]) (by simp [ha])
  refine wf_evict k (h.setUc ha _ (nodup_keys_erase _ _ h.ucNodup) fun j hj => h.ucRes j ?_) (by simp [hq])
    (not_mem_keys_erase _ k h.ucNodup)
  rw [keys_erase_eq] at hj; exact List.mem_of_mem_erase hj

theorem not_mem_dropLast {α : Type} {l : List α} {k : α} (hn : l.Nodup) (hk : l.getLast? = some k) :
    k ∉ l.dropLast := by
  obtain ⟨ys, rfl⟩ := List.getLast?_eq_some_iff.mp hk
  rw [List.dropLast_concat]
  exact fun hmem => (List.nodup_append.mp hn).2.2 k hmem k (List.mem_singleton.mpr rfl) rfl

theorem wf_overflow {cfg : Cfg} {s s' : St K V} (victim : Option K) (h : WF cfg s)
    (ho : overflow cfg s victim = some s') : WF cfg s' := by
  cases overflow_some ho with
  | fits | unbounded | rrNone => exact h
  | purge => exact wf_nil cfg List.nodup_nil rfl rfl rfl
  | lfu ha => exact lfu_fold_induction _ h fun _ k h => wf_lfu_evict k h ha
  | lru k q rc ha hloop =>
    obtain ⟨v, post, rc', he, hd, hi, hn⟩ := lruLoop_spec s.queue s.rc (h.rcInv ha)
      (List.ne_nil_of_mem (lruLoop_mem _ _ _ _ _ hloop).1)
    rw [hloop] at he; cases he
    obtain ⟨hk, hmem⟩ := mem_of_dkl_eq_cons hd
    exact wf_evict k
      (h.setQueueRc ha q (erase rc k) (fun j hj => h.queueRes j ((hmem j).mpr (Or.inr hj)))
        (nodup_keys_erase _ _ (hn h.rcNodup)) (rcInv_erase hi (hn h.rcNodup) hk))
      hk (h.not_mem_uc (by simp [ha]) k)
  | mru k ha hk =>
    have hnd := h.mruNodup ha
    exact wf_evict k
      (h.setQueue ha _ (fun j hj => h.queueRes j (List.dropLast_subset _ hj)) ((List.dropLast_sublist _).nodup hnd))
      (not_mem_dropLast hnd hk) (h.not_mem_uc (by simp [ha]) k)
  | rr k ha =>
    exact wf_evict k h (by simp [h.queueNil (by simp [ha]) (by simp [ha])]) (h.not_mem_uc (by simp [ha]) k)

theorem wf_post {cfg : Cfg} {s : St K V} (k : K) (h : WF cfg s)
    (hm : cfg.algo = .mru → has s.c.mem k = true ∧ k ∉ s.queue) : WF cfg (post cfg s k) := by
  unfold post
  split
  · next ha =>
    obtain ⟨hk, hnot⟩ := hm ha
    exact h.setQueue ha _ (List.forall_mem_append.mpr ⟨h.queueRes, List.forall_mem_singleton.mpr hk⟩)
      (List.nodup_append.mpr ⟨h.mruNodup ha, List.pairwise_singleton _ k,
        fun a ha' b hb e => hnot (List.mem_singleton.mp hb ▸ e ▸ ha')⟩)
  · next ha =>
    split
    · simp only [compactQ_eq_dkl]
      have := rcInv_ones (nodup_dkl s.queue)
      exact h.setQueueRc ha _ _ (fun j hj => h.queueRes j ((mem_dkl _ j).mp hj)) this.2 this.1
    · exact h
  · exact h

theorem wf_keyFail {cfg : Cfg} {s : St K V} (fn : Except Exc V) (e : Exc) (h : WF cfg s) :
    WF cfg (keyFail cfg s fn e).1 := by
  unfold keyFail evalDirect
  split
  · split
    · exact wf_stats _ _ _ h
    · exact h
  · exact h

theorem wf_hitStep {cfg : Cfg} {s : St K V} (k : K) (v : V) (h : WF cfg s)
    (hk : has s.c.mem k = true) : WF cfg (hitStep cfg s k v).1 := by
  unfold hitStep
  by_cases ha : cfg.algo = .mru
  · have hnd := h.mruNodup ha
    simp only [ha, if_true]
    exact wf_post k
      (wf_stats _ _ _ (h.setQueue ha _ (fun j hj => h.queueRes j (List.mem_of_mem_erase hj)) (hnd.erase k)))
      fun _ => ⟨hk, fun hmem => (hnd.mem_erase_iff.mp hmem).1 rfl⟩
  · simp only [ha, if_false]
    exact wf_post k (wf_stats _ _ _ (wf_useKey k h hk)) (fun hm => absurd hm ha)

/-- the state on which the tail of a LOAD or MISS runs -/
theorem wf_ins {cfg : Cfg} {s : St K V} {c2 : Cache K V} {k : K} {v : V} (h : WF cfg s) (hins : Ins s.c c2 k v) :
    WF cfg (useKey cfg { s with c := c2 } k) :=
  wf_useKey k
    (wf_of_mem_grow _ h (hins.nodup h.memNodup) (fun j hj => by rw [hins.mem, has_put]; simp [hj]))
    (by rw [hins.mem, has_put]; simp)

/-- the tail of a LOAD or MISS.  For mru the new key is to be resident and not yet in the queue (`hm`, what `wf_post`
asks for), and `MruNoPurge` keeps it resident across the purge block (finding F27 otherwise): the victim is the last
queue entry, which is not `k`. -/
theorem wf_finish {cfg : Cfg} {s2 : St K V} {k : K} {v : V} {n : Nat} {victim : Option K} (h2 : WF cfg s2)
    (hmp : MruNoPurge cfg) (hm : cfg.algo = .mru → has s2.c.mem k = true ∧ k ∉ s2.queue) :
    WF cfg (finish cfg s2 k v n victim).1 := by
  rcases finish_cases cfg s2 k v n victim with ⟨_, hf⟩ | hf | ⟨s3, ho, hf⟩ <;> rw [hf]
  · exact h2
  · exact h2
  · refine wf_post k (wf_overflow victim h2 ho) fun ha => ?_
    obtain ⟨hk, hnot⟩ := hm ha
    cases overflow_some ho with
    | fits | unbounded | rrNone => exact ⟨hk, hnot⟩
    | purge _ hp => rw [hmp ha] at hp; cases hp
    | lfu ha' | lru _ _ _ ha' | rr _ ha' => cases ha.symm.trans ha'
    | mru j _ hj =>
      have hjq := List.mem_of_getLast? hj
      refine ⟨?_, fun hmem => hnot (List.dropLast_subset _ hmem)⟩
      rw [evictOne_mem, has_erase _ _ _ h2.memNodup, hk, decide_eq_false fun e : k = j => hnot (e ▸ hjq)]
      rfl

/-- `wf_finish` after an insertion.  The counters `a b c` are arbitrary, so the lemma serves `loadStep` (`load + 1`) and
`missStep` (`miss + 1`) alike. -/
theorem wf_finish_ins {cfg : Cfg} {s : St K V} {c2 : Cache K V} {k : K} {v : V} (h : WF cfg s) (hmp : MruNoPurge cfg)
    (hins : Ins s.c c2 k v) {a b c n : Nat} {victim : Option K} :
    WF cfg (finish cfg { useKey cfg { s with c := c2 } k with hit := a, miss := b, load := c } k v n victim).1 := by
  refine wf_finish (wf_stats a b c (wf_ins h hins)) hmp fun ha => ⟨?_, ?_⟩
  · rw [useKey_c, hins.mem, has_put]; simp
  · have : ¬ has s.c.mem k = true := by simp [has, hins.absent]
    simpa [useKey, ha] using fun hq => this (h.queueRes k hq)

theorem wf_callCached {cfg : Cfg} {s : St K V} (ci : CallIn K V) (h : WF cfg s) (hmp : MruNoPurge cfg) :
    WF cfg (callCached cfg s ci).1 := by
  refine callCached_cases (motive := fun r => WF cfg r.1) cfg s ci ?_ ?_ ?_ ?_ ?_
  · intro e _; exact wf_keyFail _ _ h
  · intro k v _ hm; exact wf_hitStep k v h ((has_eq_true_iff _ _).mpr ⟨v, hm⟩)
  · intro k v _ hm ha; exact wf_finish_ins h hmp (ins_load s.c k v hm ha)
  · intros; exact h
  · intro k v _ hm ha _; exact wf_finish_ins h hmp (ins_miss s.c k v hm ha)

theorem wf_callNo {cfg : Cfg} {s : St K V} (ci : CallIn K V) (h : WF cfg s) (ha : cfg.algo = .no) :
    WF cfg (callNo cfg s ci).1 := by
  -- nothing is tracked, so memory may be emptied
  have hclr : ∀ (c' : Cache K V) (a b c : Nat), c'.mem = [] →
      WF cfg ({ s with c := c', hit := a, miss := b, load := c } : St K V) := fun c' a b c hm =>
    wf_stats a b c (h.setCache c' (by simp [hm, keys]) (by simp [h.queueNil (by simp [ha]) (by simp [ha])])
      (fun k hk => absurd hk (h.not_mem_uc (by simp [ha]) k)))
  refine callNo_cases (motive := fun r => WF cfg r.1) cfg s ci ?_ ?_ ?_ ?_ ?_ ?_ ?_ <;> intros
  · exact wf_keyFail _ _ h
  · exact h
  · exact h
  · exact hclr _ _ _ _ rfl
  · exact hclr _ _ _ _ rfl
  · exact h
  · exact hclr _ _ _ _ rfl

theorem wf_call {cfg : Cfg} {s : St K V} (ci : CallIn K V) (h : WF cfg s) (hmp : MruNoPurge cfg) :
    WF cfg (call cfg s ci).1 := by
  unfold call
  split
  · rename_i ha; exact wf_callNo ci h ha
  · exact wf_callCached ci h hmp

theorem wf_step {cfg : Cfg} {s : St K V} (op : Op K V) (h : WF cfg s) (hmp : MruNoPurge cfg) :
    WF cfg (step cfg s op).1 := by
  cases ht : op.touchesMem with
  | false =>
    obtain ⟨c', h1, h2⟩ := step_sameMem cfg s op ht
    rw [h1]; exact h.setCache c' (h2 ▸ h.memNodup) (h2 ▸ h.queueRes) (h2 ▸ h.ucRes)
  | true =>
    cases op with
    | call ci => exact wf_call ci h hmp
    | clear keep =>
      have h1 : WF cfg ({ s.clearBook with c := s.c.clearMem } : St K V) := wf_nil cfg List.nodup_nil rfl rfl rfl
      dsimp only [step]
      cases keep with
      | true => exact h1
      | false => exact wf_stats 0 0 0 h1
    | load ks =>
      have hl := loadRel_loadKeys s.c ks
      exact wf_of_mem_grow _ h (hl.nodup h.memNodup) hl.has
    | loadAll =>
      -- not through `loadRel_loadAll`: that needs `ArchNodup`, which `WF` does not carry
      dsimp only [step, Cache.loadAll]
      cases s.c.arch with
      | some a => exact wf_of_mem_grow _ h (nodup_keys_update _ _ h.memNodup) (fun j => has_update_of_has _ _ j)
      | none => exact h
    | _ => cases ht

/-- every state reachable by a history of operations is well-formed -/
theorem wf_run {cfg : Cfg} (ops : List (Op K V)) (s : St K V) (h : WF cfg s) (hmp : MruNoPurge cfg) :
    WF cfg (run cfg s ops).1 :=
  run_induction ops (fun _ h op _ => wf_step op h hmp) s h

end Klepto
