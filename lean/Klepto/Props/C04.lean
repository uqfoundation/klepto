import Klepto.Props.C03
import Klepto.Props.C02
/-!
# C04 — Persistence: a fresh handle or process sees exactly what was written

The model is *storage-centric*: the contents of a persistent archive live in a store indexed by
location; a handle is a location plus settings and holds no contents of its own (every method of
`file_archive`, `dir_archive`, sqlite `sqltable_archive` goes to storage — `__asdict__`, `_lookup`,
`_select_key_items`).  In such a model "a fresh handle sees what was written" is true by construction
(`C04_fresh_handle`, `C04_new_process`) — the theorems are **thin**; what they record is the modelling
assumption that suite `persist` then checks against the code on every run: the same write histories
read through the writing handle, a fresh handle, `copy()`, a handle rebuilt from `state`, an
unpickled handle, and a fresh / unpickled handle in a new process with another working directory
must all equal the contents of model M7 (`Sys.step`) and a dict of snapshots.
With content: `C04_*_fresh_sees_dict` (C03 through the store), `C04_snapshot_stable` (the frame of `DictSpec`), the
import system's source/byte-code decision `importRead` (`C04_import_reader_*`), `C04_redecorate` (from C02).
-/
namespace Klepto.C04
open AMap Backend
variable {K V : Type} [DecidableEq K]

structure PHandle where
  loc : String
  settings : Nat            -- opaque: serialized / protocol / compression …; only equality matters
  deriving DecidableEq, Repr

abbrev Store (K V : Type) := List (String × BSt K V)

def hstep (c : Codec K V) (st : Store K V) (h : PHandle) (op : Backend.Op K V) : Store K V × Backend.Out K V :=
  match get? st h.loc with
  | none => (st, .refused)
  | some b => let r := b.step c op; (put st h.loc r.1, r.2)

/-- `dict(handle.items())` -/
def hview (c : Codec K V) (st : Store K V) (h : PHandle) : Option (List (K × V)) :=
  (get? st h.loc).bind (·.asDict c)

def hrun (c : Codec K V) (st : Store K V) (h : PHandle) : List (Backend.Op K V) → Store K V
  | [] => st
  | op :: ops => hrun c (hstep c st h op).1 h ops

/-- **a fresh handle sees what the writing handle sees** (thin: the contents are in the store) -/
theorem C04_fresh_handle (c : Codec K V) (st : Store K V) (w f : PHandle) (ops : List (Backend.Op K V))
    (hloc : f.loc = w.loc) : hview c (hrun c st w ops) f = hview c (hrun c st w ops) w := by
  simp [hview, hloc]

/-- a process is a set of handles and nothing else that outlives it; the store does.  **A new
process started after the writer exited** opens a handle on the location and reads the store the
writer left (thin) -/
theorem C04_new_process (c : Codec K V) (st : Store K V) (w r : PHandle) (ops : List (Backend.Op K V))
    (hloc : r.loc = w.loc) :
    let left := hrun c st w ops          -- what the writer process leaves behind
    hview c left r = hview c left w :=
  C04_fresh_handle c st w r ops hloc

/-- operations through a handle never touch another location -/
theorem C04_other_location (c : Codec K V) (st : Store K V) (h : PHandle) (op : Backend.Op K V) (l : String) (hl : l ≠ h.loc) :
    get? (hstep c st h op).1 l = get? st l := by
  unfold hstep
  cases get? st h.loc with
  | none => rfl
  | some b => exact (get?_put ..).trans (if_neg hl)

/-- writing through a handle runs the class's own step function on what the store holds at the handle's location
(`mk`: the constructor of one archive class, `.file`, `.sql` or `.dir`; `step`: its step function) -/
theorem hrun_at {S : Type} (c : Codec K V) (mk : S → BSt K V) (step : S → Backend.Op K V → S × Backend.Out K V)
    (hmk : ∀ s op, (mk s).step c op = (mk (step s op).1, (step s op).2)) (st : Store K V) (w : PHandle) (s : S)
    (ops : List (Backend.Op K V)) (hm : get? st w.loc = some (mk s)) :
    get? (hrun c st w ops) w.loc = some (mk (C03.runWith step s ops).1) := by
  induction ops generalizing st s with
  | nil => exact hm
  | cons op ops ih => exact ih _ _ (by simp only [hstep, hm, hmk, get?_put, if_true])

/-- **`file_archive`: a fresh handle (same process, another process, after the writer exited) reads a
dict `l` whose contents are exactly those a Python dict would hold after the same operations** — the
write history through `w` is a dict history (`DictRun`) from the initial contents to `get? l` -/
theorem C04_file_fresh_sees_dict (c : Codec K V) (st : Store K V) (w f : PHandle) (m : List (K × V))
    (ops : List (Backend.Op K V)) (hloc : f.loc = w.loc) (hm : get? st w.loc = some (.file m))
    (hinv : C03.FileInv c m) (ha : ∀ op ∈ ops, ∀ p ∈ C03.stores op, C03.Enc c p) :
    ∃ l, hview c (hrun c st w ops) f = some l ∧
      DictRun (get? m) (C03.runWith (fileStep c) m ops).2 (get? l) :=
  ⟨_, by rw [hview, hloc, hrun_at c .file (fileStep c) (fun _ _ => rfl) st w m ops hm]; rfl,
    C03.file_run c m ops hinv ha⟩

/-- the same for the sqlite table (no invariant needed) -/
theorem C04_sql_fresh_sees_dict (c : Codec K V) (st : Store K V) (w f : PHandle) (rows : SqlSt K V)
    (ops : List (Backend.Op K V)) (hloc : f.loc = w.loc) (hm : get? st w.loc = some (.sql rows))
    (ha : ∀ op ∈ ops, ∀ p ∈ C03.stores op, C03.Enc c p)
    (hr : ∀ x ∈ (C03.runWith (sqlStep c) rows ops).2, x.2 ≠ .refused) :
    ∃ l, hview c (hrun c st w ops) f = some l ∧
      DictRun (sqlGet rows) (C03.runWith (sqlStep c) rows ops).2 (get? l) :=
  ⟨_, by rw [hview, hloc, hrun_at c .sql (sqlStep c) (fun _ _ => rfl) st w rows ops hm]; rfl,
    by rw [view_sqlDict]; exact C03.sql_run c rows ops ha hr⟩

/-- … and for `dir_archive` on a key universe with distinct file names -/
theorem C04_dir_fresh_sees_dict (c : Codec K V) (U : K → Prop) (hc : DirCodecOK c U) (st : Store K V) (w f : PHandle)
    (s : DirSt K V) (ops : List (Backend.Op K V)) (hloc : f.loc = w.loc) (hm : get? st w.loc = some (.dir s))
    (hinv : DirInv c U s) (hk : ∀ op ∈ ops, ∀ k ∈ C03.opKeys op, U k)
    (hv : ∀ op ∈ ops, ∀ p ∈ C03.stores op, c.cv p.2 = some p.2)
    (hr : ∀ x ∈ (C03.runWith (dirStep c) s ops).2, x.2 ≠ .refused) :
    ∃ l, hview c (hrun c st w ops) f = some l ∧
      DictRun (get? (toDict c s)) (C03.runWith (dirStep c) s ops).2 (get? l) := by
  obtain ⟨hrun, hinv'⟩ := C03.dir_run_inv c U hc s ops hinv hk hv hr
  exact ⟨_, by rw [hview, hloc, hrun_at c .dir (dirStep c) (fun _ _ => rfl) st w s ops hm]
               exact dirItems_eq hc _ hinv', hrun⟩

/-- the operations that can remove or change a key they do not name -/
def global : Backend.Op K V → Bool
  | .clear | .popitem _ => true
  | _ => false

/-- **snapshot stability**: in any dict history step, a key the operation does not name keeps its
value (or its absence).  With `C03`'s refinement theorems this holds of every archive class: what a
later reader finds under `k` is the value of the last operation that named `k`. -/
theorem C04_snapshot_stable (d d' : View K V) (op : Backend.Op K V) (o : Backend.Out K V) (h : DictSpec d op o d')
    (k : K) (hk : k ∉ C03.opKeys op) (hg : global op = false) : d' k = d k := by
  cases h with
  | setitem a _ | setdefault_miss a _ _ | delitem_hit a _ _ | pop_hit a _ _ _ =>
    -- `put` and `del` at `a` change nothing at another key
    exact if_neg (List.ne_of_not_mem_cons hk)
  | popkeys_default ks x => exact View.popSeq_frame x d ks k hk
  | popkeys_all ks _ _ hp => exact View.popAll_frame d ks k hk _ hp
  | update kvs => exact View.putAll_frame d kvs k hk
  | popitem _ _ _ _ | clear => cases hg
  | _ => rfl

/-- the archive's source file as the import system sees it -/
structure Src (C : Type) where
  mtimeSec : Nat
  size : Nat
  content : C

/-- `import memo` (how an archive with `serialized=False` is read) as CPython does it: a cached `.pyc` is
used when its recorded (mtime-second, size) match the source; otherwise the source is compiled, and — if
byte-code writing is on — cached -/
def importRead {C : Type} (writeBytecode : Bool) (src : Src C) (pyc : Option (Nat × Nat × C)) : C × Option (Nat × Nat × C) :=
  match pyc with
  | some (mt, sz, c) =>
    if mt = src.mtimeSec ∧ sz = src.size then (c, pyc)
    else (src.content, if writeBytecode then some (src.mtimeSec, src.size, src.content) else pyc)
  | none => (src.content, if writeBytecode then some (src.mtimeSec, src.size, src.content) else none)

/-- a write replaces the source file -/
inductive IOp (C : Type)
  | write (s : Src C)
  | read

/-- every read, paired with the content of the source file at that moment -/
def importRun {C : Type} (wb : Bool) : Src C → Option (Nat × Nat × C) → List (IOp C) → List (C × C)
  | _, _, [] => []
  | _, pyc, .write s :: ops => importRun wb s pyc ops
  | src, pyc, .read :: ops =>
    let r := importRead wb src pyc
    (r.1, src.content) :: importRun wb src r.2 ops

/-- **the reader of the current code** (byte-code writing switched off around the import, fix F9):
no `.pyc` ever appears, and every read returns the last write — for every history, whatever the
timing and sizes of the writes -/
theorem C04_import_reader_fresh {C : Type} (src : Src C) (ops : List (IOp C)) :
    ∀ p ∈ importRun false src none ops, p.1 = p.2 := by
  induction ops generalizing src with
  | nil => simp [importRun]
  | cons op ops ih =>
    cases op with
    | write s => exact ih s
    | read => exact List.forall_mem_cons.mpr ⟨rfl, ih src⟩

/-- what the fix removed (finding F9, replayed by suite `persist` with byte-code caching on): two
writes of equal size within one second, a read in between caches the first — the second read is stale -/
example : importRun true (⟨100, 7, "k=0"⟩ : Src String) none [.read, .write ⟨100, 7, "k=1"⟩, .read]
    = [("k=0", "k=0"), ("k=0", "k=1")] := by decide

/-- with byte-code caching, reads are fresh as long as consecutive writes differ in (second, size) -/
theorem C04_import_reader_partial {C : Type} (src : Src C) (mt sz : Nat) (c : C)
    (hd : ¬ (mt = src.mtimeSec ∧ sz = src.size)) : (importRead true src (some (mt, sz, c))).1 = src.content := by
  simp [importRead, hd]

/-- `__state__` of a file/dir archive: the location as an absolute path plus the settings -/
structure AState where
  id : String               -- absolute path (`mkdir` / `os.path.abspath` at construction)
  settings : Nat
  deriving DecidableEq, Repr

/-- `__init__(name, settings)` run in working directory `cwd`: a relative name is resolved there -/
def construct (cwd : String) (name : String) (settings : Nat) (absolute : Bool) : AState :=
  { id := if absolute then name else cwd ++ "/" ++ name, settings := settings }

/-- `__reduce__` of `dir_archive`: `(cls, (basename(id), settings…), {'__state__': state})`; unpickling
calls the constructor with the *base name* in the current directory and then restores `__state__` -/
def unpickleDir (cwd : String) (base : String) (s : AState) : AState :=
  let fresh := construct cwd base s.settings false
  { fresh with id := s.id, settings := s.settings }          -- `__dict__.update(state)`

/-- **an unpickled handle addresses the same store with the same settings**, in any working directory -/
theorem C04_unpickle_same_store (cwd base : String) (s : AState) : unpickleDir cwd base s = s := rfl

/-- it is the restored `__state__` that makes this true: the constructor arguments alone name a
different directory as soon as the working directory differs (the stray empty directory suite
`persist` reports as a note) -/
example : construct "/other" "archdir" 0 false ≠ ({ id := "/work/archdir", settings := 0 } : AState) := by decide

/-- `copy()` with no name and a handle rebuilt from `state` are constructed from `state['id']`, an
absolute path: same location, same settings -/
theorem C04_rebuild_from_state (cwd : String) (s : AState) : construct cwd s.id s.settings true = s := rfl

/-- C02's second-session theorem, restated for C04: a fresh wrapper (new function object, new
process) whose cache is attached to an archive holding `k ↦ w` never evaluates the function for `k`,
over any quiet history -/
theorem C04_redecorate (cfg : Cfg) (a : List (K × V)) (ops : List (Klepto.Op K V)) (k : K) (w : V)
    (hno : cfg.algo ≠ .no) (hmp : MruNoPurge cfg) (ha : (keys a).Nodup)
    (hq : ∀ op ∈ ops, C02.Quiet op = true) (hk : get? a k = some w) :
    C02.NoEval cfg k (St.init { mem := [], arch := some a, swap := none }) ops :=
  C02.C02_second_session cfg a ops k w hno hmp ha hq hk

end Klepto.C04
