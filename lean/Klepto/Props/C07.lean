import Klepto.Lemmas.CallRel
/-!
# C07 — Nothing is lost on eviction: leaving memory means being in the archive

The `C07_*` theorems are about one call of model M3, for all five caching algorithms × purge × safe at once
(`callCached`), and separately for `no_cache`; they are read off `Traffic`, the relation a call establishes between
the caches before and after.  `Sound` / `Keeps` are what histories carry (`Props/C07History.lean`, `Props/C02.lean`).
`aget` = lookup in the attached archive, `retr` = lookup in memory, else in the archive.
-/
namespace Klepto.C07
open AMap
variable {K V : Type} [DecidableEq K]

/-- what one call of a caching decorator does to the cache, whether or not a write-back is refused
(`callCached_rel`, `callCachedF_rel`): at most one insertion, then moves from memory to the archive -/
def Traffic (c c' : Cache K V) : Prop :=
  ∃ c2, (c2 = c ∨ ∃ k v, Ins c c2 k v) ∧ MoveRel c2 c' ∧ (c.archived = true → Leaves c2 c')

theorem ins_keeps {c c2 : Cache K V} (h : c2 = c ∨ ∃ k v, Ins c c2 k v) :
    (∀ j, c2.aget j = c.aget j) ∧ (∀ j w, get? c.mem j = some w → get? c2.mem j = some w) ∧
    (Agree c → Agree c2) := by
  rcases h with rfl | ⟨k, v, hins⟩
  · exact ⟨fun _ => rfl, fun _ _ h => h, id⟩
  · refine ⟨hins.aget, fun j w hb => ?_, agree_ins hins⟩
    have hjk : j ≠ k := by intro h; subst h; rw [hins.absent] at hb; cases hb
    rw [hins.get_other j hjk]; exact hb

namespace Traffic
variable {c c' : Cache K V}

theorem leaving_is_archived (h : Traffic c c') (ha : c.archived = true) (j : K) (w : V)
    (hb : get? c.mem j = some w) (hl : get? c'.mem j = none) : c'.aget j = some w := by
  obtain ⟨c2, hc2, _, hlv⟩ := h
  have h2 := (ins_keeps hc2).2.1 j w hb
  rw [hlv ha j hl (by rw [h2]; rfl), h2]

theorem nodup (h : Traffic c c') (hn : (keys c.mem).Nodup) : (keys c'.mem).Nodup := by
  obtain ⟨c2, hc2, hmv, _⟩ := h
  rcases hc2 with rfl | ⟨k, v, hins⟩
  · exact hmv.nodup hn
  · exact hmv.nodup (hins.nodup hn)

theorem archived (h : Traffic c c') : c'.archived = c.archived := by
  obtain ⟨c2, hc2, hmv, _⟩ := h
  rcases hc2 with rfl | ⟨k, v, hins⟩
  · exact hmv.archived
  · exact hmv.archived.trans hins.archived

theorem agree (h : Traffic c c') (hag : Agree c) : Agree c' := by
  obtain ⟨c2, hc2, hmv, _⟩ := h
  exact agree_move hmv ((ins_keeps hc2).2.2 hag)

theorem archive_stable (h : Traffic c c') (hag : Agree c) (j : K) (w : V) (hb : c.aget j = some w) :
    c'.aget j = some w := by
  obtain ⟨c2, hc2, hmv, _⟩ := h
  obtain ⟨hg, _, hag2⟩ := ins_keeps hc2
  rcases hmv.arch j with h | ⟨hs, h⟩
  · rw [h, hg]; exact hb
  · cases hm : get? c2.mem j with
    | none => rw [hm] at hs; cases hs
    | some x => rw [h, hm, hag2 hag j x w hm (by rw [hg]; exact hb)]

theorem retr_eq (h : Traffic c c') (ha : c.archived = true) (j : K) :
    retr c' j = retr c j ∨ retr c j = none := by
  obtain ⟨c2, hc2, hmv, hlv⟩ := h
  rw [retr_move hmv (hlv ha)]
  rcases hc2 with rfl | ⟨k, v, hins⟩
  · exact Or.inl rfl
  · rcases retr_ins hins j with h | ⟨_, h, _⟩
    · exact Or.inl h
    · exact Or.inr h

theorem retained (h : Traffic c c') (ha : c.archived = true) (j : K) (w : V)
    (hb : retr c j = some w) : retr c' j = some w := by
  rcases h.retr_eq ha j with h | h
  · rw [h]; exact hb
  · rw [h] at hb; cases hb

end Traffic

theorem traffic_callCached (cfg : Cfg) (s : St K V) (ci : CallIn K V) (hn : (keys s.c.mem).Nodup) :
    Traffic s.c (callCached cfg s ci).1.c := by
  obtain ⟨c2, hc2, h⟩ := callCached_rel cfg s ci hn
  exact ⟨c2, hc2.imp (·.1) fun ⟨k, v, _, hins, _⟩ => ⟨k, v, hins⟩, h⟩

/-- the state invariant the one-step theorems of C07 need; preserved by every call -/
structure Sound (c : Cache K V) : Prop where
  nodup : (keys c.mem).Nodup
  archived : c.archived = true
  agree : Agree c

/-- what a quiet operation keeps: the cache after it is `Sound` again, and nothing retrievable before it is lost -/
def Keeps (c c' : Cache K V) : Prop := Sound c' ∧ ∀ j w, retr c j = some w → retr c' j = some w

theorem Keeps.refl {c : Cache K V} (h : Sound c) : Keeps c c := ⟨h, fun _ _ hb => hb⟩

theorem Keeps.trans {c c' c'' : Cache K V} (h1 : Keeps c c') (h2 : Keeps c' c'') : Keeps c c'' :=
  ⟨h2.1, fun j w hb => h2.2 j w (h1.2 j w hb)⟩

theorem sound_new_session (a : List (K × V)) (ha : (keys a).Nodup) :
    Sound ({ mem := [], arch := some a, swap := none } : Cache K V) ∧
    ArchNodup ({ mem := [], arch := some a, swap := none } : Cache K V) :=
  ⟨⟨List.nodup_nil, rfl, fun j x y h => by simp [get?] at h⟩, fun a' h' => by cases h'; exact ha⟩

theorem Traffic.keeps {c c' : Cache K V} (h : Traffic c c') (hs : Sound c) : Keeps c c' :=
  ⟨⟨h.nodup hs.nodup, h.archived.trans hs.archived, h.agree hs.agree⟩, h.retained hs.archived⟩

theorem keeps_of_copied {c c' : Cache K V} (hs : Sound c) (hm : c'.mem = c.mem) (hmv : MoveRel c c') : Keeps c c' :=
  Traffic.keeps ⟨c, Or.inl rfl, hmv, fun _ => leaves_of_mem_eq hm⟩ hs

theorem keeps_of_loaded {c c' : Cache K V} (hs : Sound c) (hl : LoadRel c c') : Keeps c c' :=
  ⟨⟨hl.nodup hs.nodup, hl.archived.trans hs.archived, agree_load hl hs.agree⟩, retr_load hl hs.agree⟩

/-- **Leaving memory means being in the archive** (lfu / lru / mru / rr / inf, std and safe, purge
or per-entry eviction, single or multiple victims): with an archive attached, every entry resident
before a call and not resident after it is in the archive with the same value. -/
theorem C07_leaving_is_archived (cfg : Cfg) (s : St K V) (ci : CallIn K V)
    (hn : (keys s.c.mem).Nodup) (ha : s.c.archived = true) (j : K) (w : V)
    (hb : get? s.c.mem j = some w) (hl : get? (callCached cfg s ci).1.c.mem j = none) :
    (callCached cfg s ci).1.c.aget j = some w :=
  (traffic_callCached cfg s ci hn).leaving_is_archived ha j w hb hl

/-- **Cache traffic never changes or removes an archived entry.** -/
theorem C07_archive_stable (cfg : Cfg) (s : St K V) (ci : CallIn K V)
    (hn : (keys s.c.mem).Nodup) (hag : Agree s.c) (j : K) (w : V) (hb : s.c.aget j = some w) :
    (callCached cfg s ci).1.c.aget j = some w :=
  (traffic_callCached cfg s ci hn).archive_stable hag j w hb

/-- **Every result stays retrievable**: whatever was retrievable (from memory or the archive)
before a call is retrievable with the same value after it. -/
theorem C07_retained (cfg : Cfg) (s : St K V) (ci : CallIn K V)
    (hn : (keys s.c.mem).Nodup) (ha : s.c.archived = true) (hag : Agree s.c) (j : K) (w : V)
    (hb : retr s.c j = some w) : retr (callCached cfg s ci).1.c j = some w :=
  (traffic_callCached cfg s ci hn).retained ha j w hb

/-- **A freshly returned result is retrievable right after the call** (it may already have been
evicted to the archive — e.g. `lru` over bulk-loaded entries evicts the new key itself). -/
theorem C07_result_retained (cfg : Cfg) (s : St K V) (ci : CallIn K V) (k : K) (v : V) (n : Nat)
    (hn : (keys s.c.mem).Nodup) (ha : s.c.archived = true)
    (hk : ci.key = .ok k) (ho : (callCached cfg s ci).2 = .ret v n) :
    retr (callCached cfg s ci).1.c k = some v := by
  obtain ⟨c2, hc2, hmv, hlv⟩ := callCached_rel cfg s ci hn
  rw [retr_move hmv (hlv ha)]
  unfold retr
  rcases hc2 with ⟨rfl, hr, _⟩ | ⟨k', v', hk', hins, hr, _⟩
  · rw [hr k v n hk ho]
  · rw [hk] at hk'; cases hk'
    rw [hr v n ho, hins.get_self]

/-- `no_cache`: a computed result goes to the archive before memory is cleared; what was
archived stays archived.  Resident entries that are *not* archived are lost when a call is answered
from memory or the archive (finding F26) — hence the hypothesis `hres`. -/
theorem C07_no_cache (cfg : Cfg) (s : St K V) (ci : CallIn K V)
    (hn : (keys s.c.mem).Nodup) (ha : s.c.archived = true)
    (hres : ∀ j w, get? s.c.mem j = some w → s.c.aget j = some w) (j : K) (w : V)
    (hb : retr s.c j = some w) : retr (callNo cfg s ci).1.c j = some w := by
  -- `dump()` then `clear()` is a purge: nothing retrievable changes
  have purge : ∀ c : Cache K V, (keys c.mem).Nodup → c.archived = true → retr c j = some w →
      retr (if c.archived then c.dumpAll else c).clearMem j = some w := fun c hn ha h => by
    rw [if_pos ha, retr_move (moved_purge c hn).rel ((moved_purge c hn).leaves ha)]; exact h
  refine callNo_cases (motive := fun r => retr r.1.c j = some w) cfg s ci ?_ ?_ ?_ ?_ ?_ ?_ ?_
  · intro e _; rw [keyFail_c]; exact hb
  · intros; exact hb
  · intros; exact hb
  · intros; exact purge s.c hn ha hb
  · -- answered from memory or the archive: memory is cleared without a dump (F26), so `hres` is needed
    intros
    have hbase : s.c.aget j = some w := by
      unfold retr at hb
      cases hm : get? s.c.mem j with
      | some x => rw [hm] at hb; cases hb; exact hres j w hm
      | none => rw [hm] at hb; exact hb
    simp [retr, get?, hbase]
  · intros; exact hb
  · intro k v _ hl _
    obtain ⟨h1, h2⟩ := (preload_get_eq_none s.c k).mp hl
    have hins := ins_miss s.c k v h2 h1
    refine purge _ (hins.nodup hn) (hins.archived.trans ha) ?_
    rcases retr_ins hins j with h | ⟨_, h, _⟩
    · rw [h]; exact hb
    · rw [h] at hb; cases hb

section Examples
def lru2 : Cfg := { algo := .lru, safe := false, maxsize := 2, purge := false }
def mk (k v : Nat) : Op Nat Nat := .call { key := .ok k, fn := .ok v, victim := none }
def c0 : Cache Nat Nat := { mem := [], arch := some [], swap := none }
/-- the victim of an eviction was itself loaded from the archive earlier -/
example : (run lru2 (St.init c0) [mk 1 10, mk 2 20, mk 3 30, mk 1 10, mk 4 40]).1.c =
    { mem := [(1, 10), (4, 40)], arch := some [(1, 10), (2, 20), (3, 30)], swap := none } := by decide
/-- **F26**: `no_cache` handed a cache with two un-archived resident entries: the call for key 1 is
answered from memory and the entry for key 2 is gone from memory *and* archive -/
example :
    let cfg : Cfg := { algo := .no, safe := false, maxsize := 0, purge := true }
    let s : St Nat Nat := St.init { mem := [(1, 10), (2, 20)], arch := some [], swap := none }
    (call cfg s { key := .ok 1, fn := .ok 10, victim := none }).1.c = { mem := [], arch := some [], swap := none } := by
  decide
end Examples

end Klepto.C07
