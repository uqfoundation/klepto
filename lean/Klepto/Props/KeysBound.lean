import Klepto.Props.C19Bound
import Klepto.Props.C10
import Klepto.Props.C09
/-!
# C09 / C10 for bound methods and callable instances

`_keygen` sees a bound method through `signature()`, which drops the instance parameter: the key of
`obj.m(...)` is the key of the underlying function without that parameter (`keygen_bound`).  CPython's
binding of the bound method is the binding of the rest with the instance prepended (`bind_bound_eq`).
So canonicalisation (C09) and discrimination (C10) carry over from the plain case.
-/
namespace Klepto.C19
open Klepto.AMap Klepto.Keys
variable {Val : Type} [DecidableEq Val]

theorem kSignature_bound (f : Func Val) (p0 : Param Val) (ps : List (Param Val)) (h : BoundShape f p0 ps) :
    kSignature f = kSignature (unbind f) := by
  obtain ⟨hpos, hnd, hb, hpa, hpk, -⟩ := h
  have hd : defaultsOf (p0 :: ps) = defaultsOf ps := by simp [defaultsOf, hnd]
  unfold kSignature unbind
  simp only [hpos, hb, hpa, hpk, names, List.map_cons, List.drop_succ_cons, List.drop_zero, List.zip_nil_right,
    List.any_nil, Bool.false_eq_true, if_false, if_true, hd, has, get?, Option.isSome_none, Bool.not_false, filter_true]

theorem keygen_bound (k : Consts Val) (f : Func Val) (p0 : Param Val) (ps : List (Param Val)) (h : BoundShape f p0 ps)
    (ign : List (Ign Val)) (c : PCall Val) : keygen k f ign c = keygen k (unbind f) ign c := by
  unfold keygen
  rw [kSignature_bound f p0 ps h]
  simp [unbind]

/-- CPython's binding of a bound method: the instance, then the binding of the remaining parameters -/
theorem bind_bound_eq (self : Val) (f : Func Val) (p0 : Param Val) (ps : List (Param Val)) (c : PCall Val) (b : Binding Val)
    (h : BoundShape f p0 ps) (hk : (keys c.kwds).Nodup) (hb : bind self f c = some b) :
    ∃ b', bind self (unbind f) c = some b' ∧ b.named = (p0.name, self) :: b'.named ∧ b.extraPos = b'.extraPos ∧ b.extraKw = b'.extraKw := by
  rw [bind_eq_unbind self f p0 ps c h hk] at hb
  split at hb
  · cases hb
  · obtain ⟨b', hb', rfl⟩ := Option.map_eq_some_iff.mp hb
    exact ⟨b', hb', rfl, rfl, rfl⟩

end Klepto.C19

namespace Klepto.C09
open Klepto.AMap Klepto.Keys Klepto.C19
variable {Val : Type} [DecidableEq Val]

/-- **C09 for bound methods / callable instances** (flat keymaps) -/
theorem C09_flat_bound (k : Consts Val) (self : Val) (f : Func Val) (p0 : Param Val) (ps : List (Param Val))
    (c₁ c₂ : PCall Val) (b : Binding Val)
    (km : KM Val) (le : Val → Val → Bool) (tyOf : Val → Val) (fast : Val → Bool)
    (h : BoundShape f p0 ps) (hwf : (names f.pos ++ names f.kwonly).Nodup) (hle : TotalOrder le)
    (hk₁ : (keys c₁.kwds).Nodup) (hk₂ : (keys c₂.kwds).Nodup)
    (hb₁ : bind self f c₁ = some b) (hb₂ : bind self f c₂ = some b) :
    encodeFlat km le tyOf fast (keygen k f [] c₁).1 (keygen k f [] c₁).2 =
    encodeFlat km le tyOf fast (keygen k f [] c₂).1 (keygen k f [] c₂).2 := by
  -- both calls bind the underlying function to the same values: `b` without the instance
  obtain ⟨b₁, e₁, n₁, p₁, x₁⟩ := bind_bound_eq self f p0 ps c₁ b h hk₁ hb₁
  obtain ⟨b₂, e₂, n₂, p₂, x₂⟩ := bind_bound_eq self f p0 ps c₂ b h hk₂ hb₂
  have hbb : b₁ = b₂ := by
    cases b₁; cases b₂
    simp only [Binding.mk.injEq]
    exact ⟨List.tail_eq_of_cons_eq (n₁.symm.trans n₂), p₁.symm.trans p₂, x₁.symm.trans x₂⟩
  subst hbb
  rw [keygen_bound k f p0 ps h, keygen_bound k f p0 ps h]
  exact C09_flat k self (unbind f) c₁ c₂ b₁ km le tyOf fast h.plain_unbind (h.nodup_unbind hwf) hle hk₁ hk₂ e₁ e₂

end Klepto.C09

namespace Klepto.C10
open Klepto.AMap Klepto.Keys Klepto.C19
variable {Val : Type} [DecidableEq Val]

/-- **C10 for bound methods / callable instances** (flat keymaps, no `*args`) -/
theorem C10_calls_bound (k : Consts Val) (self : Val) (f : Func Val) (p0 : Param Val) (ps : List (Param Val))
    (c₁ c₂ : PCall Val) (b₁ b₂ : Binding Val)
    (km : KM Val) (le : Val → Val → Bool) (tyOf : Val → Val) (fast : Val → Bool)
    (h : BoundShape f p0 ps) (hwf : (names f.pos ++ names f.kwonly).Nodup) (hva : f.varargs = false)
    (hk₁ : (keys c₁.kwds).Nodup) (hk₂ : (keys c₂.kwds).Nodup)
    (hb₁ : bind self f c₁ = some b₁) (hb₂ : bind self f c₂ = some b₂)
    (n : Val) (hne : get? (b₁.named ++ b₁.extraKw) n ≠ get? (b₂.named ++ b₂.extraKw) n) :
    encodeFlat km le tyOf fast (keygen k f [] c₁).1 (keygen k f [] c₁).2 ≠
    encodeFlat km le tyOf fast (keygen k f [] c₂).1 (keygen k f [] c₂).2 := by
  obtain ⟨b₁', e₁, n₁, _, x₁⟩ := bind_bound_eq self f p0 ps c₁ b₁ h hk₁ hb₁
  obtain ⟨b₂', e₂, n₂, _, x₂⟩ := bind_bound_eq self f p0 ps c₂ b₂ h hk₂ hb₂
  -- the instance itself is bound to the same object in both calls, so the difference lies elsewhere
  have hne' : get? (b₁'.named ++ b₁'.extraKw) n ≠ get? (b₂'.named ++ b₂'.extraKw) n := fun e => by
    rw [n₁, x₁, n₂, x₂] at hne
    exact hne (congrArg (fun r => if p0.name = n then some self else r) e)
  rw [keygen_bound k f p0 ps h, keygen_bound k f p0 ps h]
  exact C10_calls k self (unbind f) c₁ c₂ b₁' b₂' km le tyOf fast h.plain_unbind (h.nodup_unbind hwf)
    (by simp [unbind, hva]) hk₁ hk₂ e₁ e₂ n hne'

end Klepto.C10
