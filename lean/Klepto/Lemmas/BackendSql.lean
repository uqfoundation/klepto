import Klepto.Lemmas.DictSpec
/-! Lemmas about the sqlite row-list model (`sqlStep` on `SqlSt`): the view of a row list is "last row wins",
that is, the rows applied in order to the empty contents (`sqlGet_eq_putAll`). -/
namespace Klepto.Backend
open AMap
variable {K V : Type}

theorem sqlInsert_ok (c : Codec K V) (s : SqlSt K V) (k : K) (v : V) (hk : c.ck k = some k) (hv : c.cv v = some v) :
    sqlInsert c s k v = some (s ++ [(k, v)]) := by
  simp only [sqlInsert, hk, hv]

theorem sqlUpdate_ok (c : Codec K V) (s : SqlSt K V) (l : List (K × V))
    (h : ∀ p ∈ l, c.ck p.1 = some p.1 ∧ c.cv p.2 = some p.2) : sqlUpdate c s l = (s ++ l, none) := by
  induction l generalizing s with
  | nil => simp [sqlUpdate]
  | cons p l ih =>
    obtain ⟨⟨hk, hv⟩, h⟩ := List.forall_mem_cons.mp h
    simp only [sqlUpdate, sqlInsert_ok c s p.1 p.2 hk hv, ih _ h, List.append_assoc, List.singleton_append]

variable [DecidableEq K]

theorem sqlGet_nil (j : K) : sqlGet ([] : SqlSt K V) j = none := rfl

theorem view_sqlInsertOk (rows : SqlSt K V) (k : K) (v : V) :
    sqlGet (rows ++ [(k, v)]) = View.put (sqlGet rows) k v := by
  funext j
  unfold sqlGet View.put
  rw [List.filter_append]
  by_cases hj : j = k
  · subst hj; simp
  · simp [hj, Ne.symm hj]

theorem view_sqlDelete (rows : SqlSt K V) (k : K) : sqlGet (sqlDelete rows k) = View.del (sqlGet rows) k := by
  funext j
  unfold sqlGet sqlDelete View.del
  rw [List.filter_filter]
  by_cases hj : j = k
  · rw [if_pos hj, List.filter_eq_nil_iff.mpr fun a _ => by simp [hj]]; rfl
  · rw [if_neg hj]; congr 2
    exact List.filter_congr fun a _ => by by_cases h : a.1 = j <;> simp [h, hj]

theorem view_sql_append (s l : SqlSt K V) : sqlGet (s ++ l) = View.putAll (sqlGet s) l := by
  induction l generalizing s with
  | nil => simp [View.putAll]
  | cons p l ih => rw [List.append_cons, ih, view_sqlInsertOk]; rfl

theorem sqlGet_eq_putAll (rows : SqlSt K V) : sqlGet rows = View.putAll View.empty rows :=
  view_sql_append [] rows

theorem view_sqlDict (rows : SqlSt K V) : get? (sqlDict rows) = sqlGet rows := by
  rw [sqlDict, normalize, view_update, sqlGet_eq_putAll]; rfl

theorem itemsOf_sqlDict (rows : SqlSt K V) : ItemsOf (sqlGet rows) (sqlDict rows) :=
  view_sqlDict rows ▸ itemsOf_self _ (nodup_normalize rows)

theorem sqlPopSeq_view (x : V) (s : SqlSt K V) (ks : List K) :
    sqlGet (sqlPopSeq x s ks).1 = (View.popSeq x (sqlGet s) ks).1 ∧
    (sqlPopSeq x s ks).2 = (View.popSeq x (sqlGet s) ks).2 := by
  induction ks generalizing s with
  | nil => exact ⟨rfl, rfl⟩
  | cons k ks ih =>
    obtain ⟨h1, h2⟩ := ih (sqlDelete s k)
    rw [view_sqlDelete] at h1 h2
    exact ⟨h1, congrArg _ h2⟩

theorem sqlPopAll_view (s : SqlSt K V) (ks : List K) (r : View K V × List V) (hr : View.popAll (sqlGet s) ks = some r) :
    ∃ s', sqlPopAll s ks = (s', some r.2) ∧ sqlGet s' = r.1 := by
  induction ks generalizing s r with
  | nil => cases hr; exact ⟨s, rfl, rfl⟩
  | cons k ks ih =>
    obtain ⟨v, r', hg, hr', rfl⟩ := View.popAll_cons hr
    obtain ⟨s', e, h⟩ := ih (sqlDelete s k) r' (view_sqlDelete s k ▸ hr')
    exact ⟨s', by simp only [sqlPopAll, hg, e, Option.map_some], h⟩

end Klepto.Backend
