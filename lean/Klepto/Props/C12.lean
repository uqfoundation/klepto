import Klepto.Model.Round
/-!
# C12 — Rounding tolerance merges nearby calls but never alters what the function sees

Model M5.  `rnd` is `round(·, tol)` on floats: abstract in the theorems (any total function `g`),
`pyRound` — an exact integer-arithmetic model of CPython's `round` on binary64 — in the driver,
where it is compared bit for bit with CPython on every run.
-/
namespace Klepto.C12
open Klepto.Round
variable {F : Type}

/-- a rounding function that never raises (no `OverflowError` on the floats at hand) -/
def total (g : F → F) : F → Except RErr F := fun x => .ok (g x)

theorem bind_ok {ε α β : Type} {x : Except ε α} {a : α} (h : x = .ok a) (f : α → Except ε β) : x >>= f = f a := by
  rw [h]; rfl

mutual
/-- deep rounding = "every float, at any depth, rounded; everything else identical" -/
theorem deep_spec (g : F → F) : ∀ (v : PV F), WellBehaved v = true → deepRound (total g) v = .ok (mapFloats g v)
  | .flt x, _ => rfl
  | .leaf id, _ => rfl
  | .dict sk kvs, h => bind_ok (deep_spec_kvs g kvs h) _
  | .seq ty rb xs, h => by
    obtain ⟨rfl, h⟩ := Bool.and_eq_true_iff.mp h
    exact bind_ok (deep_spec_list g xs h) _
theorem deep_spec_list (g : F → F) : ∀ (xs : List (PV F)), WellBehavedList xs = true →
    deepRoundList (total g) xs = .ok (mapFloatsList g xs)
  | [], _ => rfl
  | x :: xs, h =>
    have h := Bool.and_eq_true_iff.mp h
    (bind_ok (deep_spec g x h.1) _).trans (bind_ok (deep_spec_list g xs h.2) _)
theorem deep_spec_kvs (g : F → F) : ∀ (kvs : List (Nat × PV F)), WellBehavedKvs kvs = true →
    deepRoundKvs (total g) kvs = .ok (mapFloatsKvs g kvs)
  | [], _ => rfl
  | (_, v) :: kvs, h =>
    have h := Bool.and_eq_true_iff.mp h
    (bind_ok (deep_spec g v h.1) _).trans (bind_ok (deep_spec_kvs g kvs h.2) _)
end

/-- the shape of a value: everything except the floats' values -/
def shape : PV F → PV Unit
  | .flt _ => .flt ()
  | .leaf id => .leaf id
  | .dict sk kvs => .dict sk (shapeKvs kvs)
  | .seq ty rb xs => .seq ty rb (shapeList xs)
where
  shapeList : List (PV F) → List (PV Unit)
    | [] => []
    | x :: xs => shape x :: shapeList xs
  shapeKvs : List (Nat × PV F) → List (Nat × PV Unit)
    | [] => []
    | (k, v) :: kvs => (k, shape v) :: shapeKvs kvs

mutual
/-- **integers, strings and all non-float data are never changed**: rounding preserves the whole
shape — container types, keys, order, every non-float leaf -/
theorem shape_mapFloats (g : F → F) : ∀ (v : PV F), shape (mapFloats g v) = shape v
  | .flt _ => rfl
  | .leaf _ => rfl
  | .dict sk kvs => congrArg (PV.dict sk) (shapeKvs_mapFloats g kvs)
  | .seq ty rb xs => congrArg (PV.seq ty rb) (shapeList_mapFloats g xs)
theorem shapeList_mapFloats (g : F → F) : ∀ (xs : List (PV F)), shape.shapeList (mapFloatsList g xs) = shape.shapeList xs
  | [] => rfl
  | x :: xs => List.cons_eq_cons.mpr ⟨shape_mapFloats g x, shapeList_mapFloats g xs⟩
theorem shapeKvs_mapFloats (g : F → F) : ∀ (kvs : List (Nat × PV F)), shape.shapeKvs (mapFloatsKvs g kvs) = shape.shapeKvs kvs
  | [] => rfl
  | (k, v) :: kvs => List.cons_eq_cons.mpr ⟨congrArg (k, ·) (shape_mapFloats g v), shapeKvs_mapFloats g kvs⟩
end

/-- **tol = None disables rounding** (simple and deep) -/
theorem C12_tol_none (deep : Bool) (args : List (PV F)) (kwds : List (Nat × PV F)) :
    roundArgs deep none args kwds = .ok (args, kwds) := rfl

/-- top-level rounding of one value -/
def top (g : F → F) : PV F → PV F
  | .flt x => .flt (g x)
  | v => v

theorem simpleRound1_spec (g : F → F) (v : PV F) : simpleRound1 (total g) v = .ok (top g v) := by
  cases v <;> rfl

theorem mapM_ok {α β : Type} (f : α → β) (l : List α) : l.mapM (fun a => (Except.ok (f a) : Except RErr β)) = .ok (l.map f) :=
  List.mapM_pure

/-- **deep = False**: exactly the top-level floats of the positional and keyword arguments are
rounded; containers are passed through untouched; it never fails -/
theorem C12_simple (g : F → F) (args : List (PV F)) (kwds : List (Nat × PV F)) :
    roundArgs false (some (total g)) args kwds = .ok (args.map (top g), kwds.map (fun p => (p.1, top g p.2))) := by
  have h : simpleRound1 (total g) = fun v => Except.ok (top g v) := funext (simpleRound1_spec g)
  rw [roundArgs, if_neg Bool.false_ne_true, h, mapM_ok]
  show (do let k ← kwds.mapM (fun p : Nat × PV F => Except.ok (p.1, top g p.2)); pure (args.map (top g), k)) = _
  rw [mapM_ok]; rfl

/-- **deep = True**: every float at any depth inside lists, tuples, sets and dicts is rounded,
nothing else changes, and the call does not fail — for arguments whose iterables can be rebuilt
from their elements -/
theorem C12_deep_partial (g : F → F) (args : List (PV F)) (kwds : List (Nat × PV F))
    (ha : WellBehavedList args = true) (hk : WellBehavedKvs kwds = true) :
    roundArgs true (some (total g)) args kwds = .ok (mapFloatsList g args, mapFloatsKvs g kwds) :=
  (bind_ok (deep_spec_list g args ha) _).trans (bind_ok (deep_spec_kvs g kwds hk) _)

/-- **calls whose arguments round to the same values share an entry, calls that round differently
do not**: the key is `K ∘ round`; with an information-preserving `K` (C10) keys coincide exactly
when the rounded arguments do -/
theorem C12_merge_iff {Key A : Type} (K : A → Key) (hK : Function.Injective K) (round : A → A) (a b : A) :
    K (round a) = K (round b) ↔ round a = round b :=
  ⟨fun h => hK h, fun h => by rw [h]⟩

section Examples
/-- a float two levels down inside a list inside a dict is rounded; the string and the int stay -/
example : deepRound (total (fun (x : Nat) => x / 10 * 10))
      (.dict true [(1, .seq 7 true [.flt 1234, .leaf 5, .seq 8 true [.flt 56]])]) =
    .ok (.dict true [(1, .seq 7 true [.flt 1230, .leaf 5, .seq 8 true [.flt 50]])]) := by rfl
/-- **F16b** (excluded by `WellBehaved`): an iterable that cannot be rebuilt from its elements —
`range` — makes `deep_round` raise `TypeError` although the call is valid -/
example : deepRound (total (fun (x : Nat) => x)) (.seq 9 false [.leaf 0, .leaf 1]) = .error .typeError := by rfl
/-- `round` on specials: zeros keep their sign, inf and nan pass through -/
example : pyRound 2 (.zero true) = .ok (.zero true) ∧ pyRound 2 .nan = .ok .nan ∧ pyRound 0 (.inf false) = .ok (.inf false) := ⟨rfl, rfl, rfl⟩
/-- `round(2.5, 0) = 2.0`, `round(0.5, 0) = 0.0` (half to even), `round(2.675, 2) = 2.67` (the binary
value is just below the tie) -/
example : (pyRound 0 (.fin false 5 (-1))).toOption = some (.fin false 4503599627370496 (-51)) ∧
          (pyRound 0 (.fin false 1 (-1))).toOption = some (.zero false) ∧
          (pyRound 2 (.fin false 6023564501608038 (-51))).toOption = some (.fin false 6012305502539612 (-51)) := by
  decide +kernel
end Examples

end Klepto.C12
