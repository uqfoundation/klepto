import Klepto.Props.C14
/-!
# C14, the single-file clause, for the *views*

`C14_file_reader` is about ONE read of the archive file.  `file_archive.items()` and `values()` are
`collections.abc` views over the archive: iterating one reads the file once for the keys and then once
more per key.  A view taken while another process saves is therefore assembled from reads at several
moments.  Each read is the complete earlier or later dictionary (`C14_file_reader`); the ASSEMBLY need
be neither - finding F55, reproduced on the code by suite `sched`, scenario `f-upd-list`.
-/
namespace Klepto.C14
open AMap Crash

/-- what an items-view yields when its key listing is read on disk state `sk` and the value of the
`i`-th key on disk state `sv i` -/
def itemsView (emptyD : List (String × Nat)) (sk : FileFS (List (String × Nat)))
    (sv : Nat → FileFS (List (String × Nat))) : List (String × Option Nat) :=
  (List.range (keys (fileRecover emptyD sk)).length).map fun i =>
    let k := (keys (fileRecover emptyD sk)).getD i ""
    (k, get? (fileRecover emptyD (sv i)) k)

def oldD : List (String × Nat) := [("a", 1), ("b", 1)]
def newD : List (String × Nat) := [("a", 2), ("b", 2)]
def fs0 : FileFS (List (String × Nat)) := { target := some (.full oldD), temps := [] }
/-- the disk after the first `k` system calls of the writer's save -/
def at_ (k : Nat) : FileFS (List (String × Nat)) := ((saveProg true 7 newD).take k).foldl fstep fs0

/-- every single read is the whole earlier or the whole later dictionary … -/
example : ∀ k ∈ [0, 1, 2, 3], fileRecover [] (at_ k) = oldD ∨ fileRecover [] (at_ k) = newD := by decide

/-- … but a view whose key listing and first value are read before the writer's rename and whose
second value is read after it is `{a ↦ 1, b ↦ 2}`: neither dictionary -/
theorem C14_file_items_torn_witness :
    itemsView [] (at_ 2) (fun i => if i = 0 then at_ 2 else at_ 3) = [("a", some 1), ("b", some 2)] ∧
    itemsView [] (at_ 2) (fun _ => at_ 2) = [("a", some 1), ("b", some 1)] ∧
    itemsView [] (at_ 3) (fun _ => at_ 3) = [("a", some 2), ("b", some 2)] := by decide

end Klepto.C14
