import Klepto.Lemmas.Equivariant
/-!
# C20, continued — what a serialisation round trip does to a wrapper, with object identity

`Props/C20.lean` models the restored copy as the same *value*.  Here the round trip is modelled as
what it is for Python objects: every object that is pickled **by value** comes back as a *new* object
(a new identity), one new object per old one (the pickler's memo); objects pickled **by reference**
(module-level singletons such as klepto's `NULL` and `SENTINEL`, classes, functions) come back as the
very same object.  A key is a tuple of leaves:

* `atom n`  — compared by value (int, str, float, bytes, None, …),
* `glob g`  — a by-reference singleton, compared by identity,
* `inst a`  — an instance with the default `__eq__`/`__hash__` (identity), living at address `a`.

`reloc ρ` is the effect of one round trip with address map `ρ`.  The pickler guarantees that `ρ` is a
function and injective; that, and singletons coming back as themselves, is what a defect in
`__reduce__` breaks (section `Witnesses`).
-/
namespace Klepto.C20
open AMap

inductive Leaf
  | atom (n : Nat)
  | glob (g : Nat)
  | inst (addr : Nat)
  deriving DecidableEq, Repr

abbrev PKey := List Leaf

def Leaf.reloc (ρ : Nat → Nat) : Leaf → Leaf
  | .atom n => .atom n
  | .glob g => .glob g
  | .inst a => .inst (ρ a)

def relocKey (ρ : Nat → Nat) (k : PKey) : PKey := k.map (Leaf.reloc ρ)

theorem Leaf.reloc_inj {ρ : Nat → Nat} (hρ : ∀ a b, ρ a = ρ b → a = b) : Inj (Leaf.reloc ρ)
  | .atom _, .atom _, h | .glob _, .glob _, h => h
  | .inst _, .inst _, h => congrArg Leaf.inst (hρ _ _ (Leaf.inst.inj h))

theorem relocKey_inj {ρ : Nat → Nat} (hρ : ∀ a b, ρ a = ρ b → a = b) : Inj (relocKey ρ) :=
  fun _ _ h => (List.map_inj_right (Leaf.reloc_inj hρ)).mp h

/-- the restored copy; values go through `ψ` (the identity for results compared by value) -/
def unpickled {V : Type} (ρ : Nat → Nat) (ψ : V → V) (s : St PKey V) : St PKey V := s.rename (relocKey ρ) ψ

/-- **lock-step through a real round trip**: whatever the history before (any `s`) and whatever the
continuation (`ops`: calls, lookups, clear, load/dump, archive toggles, external archive writes, info),
the copy - fed the same operations, whose keys it computes from its own objects (`Op.rename`) - gives
the original's outputs, one for one, and ends in the relocated final state -/
theorem C20_pickle_lockstep {V : Type} (ρ : Nat → Nat) (hρ : ∀ a b, ρ a = ρ b → a = b) (ψ : V → V)
    (cfg : Cfg) (s : St PKey V) (ops : List (Op PKey V)) :
    run cfg (unpickled ρ ψ s) (ops.map (Op.rename (relocKey ρ) ψ)) =
      (unpickled ρ ψ (run cfg s ops).1, (run cfg s ops).2.map (Out.rename ψ)) :=
  run_rename (relocKey_inj hρ) cfg s ops

/-- results compared by value (`ψ = id`): literally the same outputs — same results, same
evaluation counts, same exceptions, same `info()` -/
theorem C20_pickle_same_outputs {V : Type} (ρ : Nat → Nat) (hρ : ∀ a b, ρ a = ρ b → a = b)
    (cfg : Cfg) (s : St PKey V) (ops : List (Op PKey V)) :
    (run cfg (unpickled ρ (fun v => v) s) (ops.map (Op.rename (relocKey ρ) (fun v => v)))).2 = (run cfg s ops).2 := by
  rw [C20_pickle_lockstep ρ hρ]
  exact List.map_id'' (fun o => by cases o <;> rfl) _

/-- … and the same statistics, the same number of resident entries, the same queue length -/
theorem C20_pickle_same_account {V : Type} (ρ : Nat → Nat) (hρ : ∀ a b, ρ a = ρ b → a = b) (ψ : V → V)
    (cfg : Cfg) (s : St PKey V) (ops : List (Op PKey V)) :
    let c := (run cfg (unpickled ρ ψ s) (ops.map (Op.rename (relocKey ρ) ψ))).1
    let o := (run cfg s ops).1
    (c.hit, c.miss, c.load) = (o.hit, o.miss, o.load) ∧ c.c.mem.length = o.c.mem.length ∧
    c.queue.length = o.queue.length ∧ keys c.c.mem = (keys o.c.mem).map (relocKey ρ) := by
  rw [C20_pickle_lockstep ρ hρ]
  exact ⟨rfl, length_mapKV _, List.length_map _, keys_mapKV _⟩

/-- keys made of values and by-reference singletons only are *fixed* by every round trip — and, read
with `ρ` = "the addresses of another interpreter", are the same key in every session (C17) -/
def valueOnly : PKey → Bool
  | [] => true
  | .inst _ :: _ => false
  | _ :: k => valueOnly k

section Witnesses
def lru2' : Cfg := { algo := .lru, safe := false, maxsize := 2, purge := false }
/-- key of `f(1)` under `ignore=...`: the tuple `('x', NULL, 'y', 1)` — `glob 0` is NULL -/
def kNull : PKey := [.atom 7, .glob 0, .atom 8, .atom 1]
def sN : St PKey Nat := { (St.init { mem := [(kNull, 10)], arch := none, swap := none }) with queue := [kNull], rc := [(kNull, 1)] }

/-- the hypotheses are met by a non-trivial state and relocation: an instance-keyed entry moves, the
`NULL`-keyed one stays where every later call will look for it -/
example : relocKey (· + 100) [.inst 5, .glob 0, .atom 1] = [.inst 105, .glob 0, .atom 1] ∧
    (∀ a b : Nat, a + 100 = b + 100 → a = b) ∧ valueOnly kNull = true :=
  ⟨by decide, fun a b h => by omega, by decide⟩

/-- a defect the hypothesis excludes, 1: a singleton restored as a FRESH object (`_Null()` rebuilt by
value).  The copy holds the entry under a key no later call computes: `lookup` raises where the
original answers. -/
def freshNull : Leaf → Leaf
  | .glob 0 => .inst 999
  | l => l

theorem C20_fresh_singleton_breaks :
    (step lru2' (sN.rename (List.map freshNull) id) (.lookup (.ok kNull))).2 = .raised .keyError 0 ∧
    (step lru2' sN (.lookup (.ok kNull))).2 = .ret 10 0 := by decide

/-- a defect the hypothesis excludes, 2: two distinct objects restored as ONE (a non-injective `ρ`):
two entries collapse onto one key, the copy answers a call with the other call's result -/
def sTwo : St PKey Nat := St.init { mem := [([.inst 1], 10), ([.inst 2], 20)], arch := none, swap := none }

theorem C20_merged_objects_break :
    (step lru2' (unpickled (fun _ => 7) id sTwo) (.lookup (.ok (relocKey (fun _ => 7) [.inst 2])))).2 = .ret 10 0 ∧
    (step lru2' sTwo (.lookup (.ok [.inst 2]))).2 = .ret 20 0 := by decide
end Witnesses

end Klepto.C20
