import Klepto.Model.Wrapper
import Klepto.Lemmas.AMap
/-! Basic lemmas for M2/M3: which component each helper touches, and the branches of the `# purge cache` block, of the
tail of a LOAD or MISS and of a call, each analysed once. -/
namespace Klepto
open AMap
set_option linter.unusedSectionVars false
variable {K V : Type} [DecidableEq K]

@[simp] theorem dump1_mem (c : Cache K V) (k : K) : (c.dump1 k).mem = c.mem := by
  unfold Cache.dump1; split <;> rfl
@[simp] theorem dump1_swap (c : Cache K V) (k : K) : (c.dump1 k).swap = c.swap := by
  unfold Cache.dump1; split <;> rfl
@[simp] theorem dump1_bare (c : Cache K V) (k : K) : (c.dump1 k).bare = c.bare := by
  unfold Cache.dump1; split <;> rfl
@[simp] theorem dumpAll_mem (c : Cache K V) : c.dumpAll.mem = c.mem := by
  unfold Cache.dumpAll; split <;> rfl
@[simp] theorem dumpAll_swap (c : Cache K V) : c.dumpAll.swap = c.swap := by
  unfold Cache.dumpAll; split <;> rfl
@[simp] theorem dumpKeys_mem (c : Cache K V) (ks : List K) : (c.dumpKeys ks).mem = c.mem := by
  unfold Cache.dumpKeys
  induction ks generalizing c with
  | nil => rfl
  | cons k ks ih => simp only [List.foldl_cons]; rw [ih]; simp
@[simp] theorem load1_arch (c : Cache K V) (k : K) : (c.load1 k).arch = c.arch := by
  unfold Cache.load1; split <;> try rfl
  split <;> rfl
@[simp] theorem load1_swap (c : Cache K V) (k : K) : (c.load1 k).swap = c.swap := by
  unfold Cache.load1; split <;> try rfl
  split <;> rfl
@[simp] theorem loadAll_arch (c : Cache K V) : c.loadAll.arch = c.arch := by
  unfold Cache.loadAll; split <;> rfl
@[simp] theorem preload_arch (c : Cache K V) (k : K) : (c.preload k).arch = c.arch := by
  unfold Cache.preload; split <;> simp
@[simp] theorem preload_swap (c : Cache K V) (k : K) : (c.preload k).swap = c.swap := by
  unfold Cache.preload; split <;> simp
@[simp] theorem clearMem_arch (c : Cache K V) : c.clearMem.arch = c.arch := rfl
@[simp] theorem clearMem_mem (c : Cache K V) : c.clearMem.mem = [] := rfl
@[simp] theorem delMem_arch (c : Cache K V) (k : K) : (c.delMem k).arch = c.arch := rfl
@[simp] theorem delMem_mem (c : Cache K V) (k : K) : (c.delMem k).mem = erase c.mem k := rfl
@[simp] theorem setArchive_mem (c : Cache K V) (a : Option (List (K × V))) : (c.setArchive a).mem = c.mem := by
  unfold Cache.setArchive; split <;> rfl
@[simp] theorem swapDance_mem (c : Cache K V) : c.swapDance.mem = c.mem := by
  simp [Cache.swapDance]
theorem archivedOn_mem (c c' : Cache K V) (h : c.archivedOn = some c') : c'.mem = c.mem := by
  unfold Cache.archivedOn at h
  split at h
  · cases h
  · split at h
    · cases h; simp
    · split at h <;> cases h; rfl
theorem archivedOff_mem (c c' : Cache K V) (h : c.archivedOff = some c') : c'.mem = c.mem := by
  unfold Cache.archivedOff at h
  split at h
  · cases h
  · split at h <;> cases h <;> simp
@[simp] theorem extPut_mem (c : Cache K V) (k : K) (v : V) : (c.extPut k v).mem = c.mem := by
  unfold Cache.extPut; split <;> rfl
@[simp] theorem extDel_mem (c : Cache K V) (k : K) : (c.extDel k).mem = c.mem := by
  unfold Cache.extDel; split <;> rfl

theorem archived_iff (c : Cache K V) : c.archived = true ↔ ∃ a, c.arch = some a := by
  unfold Cache.archived; cases c.arch <;> simp

@[simp] theorem dump1_archived (c : Cache K V) (k : K) : (c.dump1 k).archived = c.archived := by
  unfold Cache.dump1 Cache.archived; split <;> simp only [*, Option.isSome_some]
@[simp] theorem dumpAll_archived (c : Cache K V) : c.dumpAll.archived = c.archived := by
  unfold Cache.dumpAll Cache.archived; split <;> simp_all
@[simp] theorem preload_archived (c : Cache K V) (k : K) : (c.preload k).archived = c.archived := by
  simp [Cache.archived]

/-- `archive.get(j)` of the attached archive (`none` for a null archive) -/
def Cache.aget (c : Cache K V) (j : K) : Option V :=
  match c.arch with
  | some a => get? a j
  | none => none

theorem aget_congr {c c' : Cache K V} (h : c'.arch = c.arch) (j : K) : c'.aget j = c.aget j := by
  simp [Cache.aget, h]

theorem load1_eq (c : Cache K V) (k : K) :
    c.load1 k = match c.aget k with
      | some v => { c with mem := put c.mem k v }
      | none => c := by
  unfold Cache.load1 Cache.aget
  cases c.arch with
  | none => rfl
  | some a => cases get? a k <;> rfl

/-- `load1` does nothing without an archive, so the guard of `preload` is redundant -/
theorem preload_eq_load1 (c : Cache K V) (k : K) : c.preload k = c.load1 k := by
  unfold Cache.preload Cache.archived Cache.load1
  cases c.arch <;> rfl

theorem preload_eq (c : Cache K V) (k : K) :
    c.preload k = match c.aget k with
      | some v => { c with mem := put c.mem k v }
      | none => c := by
  rw [preload_eq_load1, load1_eq]

theorem preload_get_self (c : Cache K V) (k : K) :
    get? (c.preload k).mem k = match c.aget k with
      | some v => some v
      | none => get? c.mem k := by
  rw [preload_eq]; cases c.aget k <;> simp [get?_put]

theorem preload_get_eq_none (c : Cache K V) (k : K) :
    get? (c.preload k).mem k = none ↔ c.aget k = none ∧ get? c.mem k = none := by
  rw [preload_get_self]; cases c.aget k <;> simp

theorem preload_get_other (c : Cache K V) (k j : K) (h : j ≠ k) :
    get? (c.preload k).mem j = get? c.mem j := by
  rw [preload_eq]; cases c.aget k <;> simp [get?_put, h]

theorem useKey_eq (cfg : Cfg) (s : St K V) (k : K) :
    useKey cfg s k =
      { s with queue := (useKey cfg s k).queue, rc := (useKey cfg s k).rc, uc := (useKey cfg s k).uc } := by
  unfold useKey; split <;> rfl
@[simp] theorem useKey_c (cfg : Cfg) (s : St K V) (k : K) : (useKey cfg s k).c = s.c := by rw [useKey_eq]
@[simp] theorem useKey_hit (cfg : Cfg) (s : St K V) (k : K) : (useKey cfg s k).hit = s.hit := by rw [useKey_eq]
@[simp] theorem useKey_miss (cfg : Cfg) (s : St K V) (k : K) : (useKey cfg s k).miss = s.miss := by rw [useKey_eq]
@[simp] theorem useKey_load (cfg : Cfg) (s : St K V) (k : K) : (useKey cfg s k).load = s.load := by rw [useKey_eq]

theorem post_eq (cfg : Cfg) (s : St K V) (k : K) :
    post cfg s k = { s with queue := (post cfg s k).queue, rc := (post cfg s k).rc } := by
  unfold post; split <;> try rfl
  split <;> rfl
@[simp] theorem post_c (cfg : Cfg) (s : St K V) (k : K) : (post cfg s k).c = s.c := by rw [post_eq]
@[simp] theorem post_hit (cfg : Cfg) (s : St K V) (k : K) : (post cfg s k).hit = s.hit := by rw [post_eq]
@[simp] theorem post_miss (cfg : Cfg) (s : St K V) (k : K) : (post cfg s k).miss = s.miss := by rw [post_eq]
@[simp] theorem post_load (cfg : Cfg) (s : St K V) (k : K) : (post cfg s k).load = s.load := by rw [post_eq]
@[simp] theorem post_uc (cfg : Cfg) (s : St K V) (k : K) : (post cfg s k).uc = s.uc := by rw [post_eq]

@[simp] theorem evictOne_mem (s : St K V) (k : K) : (evictOne s k).c.mem = erase s.c.mem k := by
  simp [evictOne, Cache.delMem]
@[simp] theorem evictOne_hit (s : St K V) (k : K) : (evictOne s k).hit = s.hit := rfl
@[simp] theorem evictOne_miss (s : St K V) (k : K) : (evictOne s k).miss = s.miss := rfl
@[simp] theorem evictOne_load (s : St K V) (k : K) : (evictOne s k).load = s.load := rfl
@[simp] theorem evictOne_queue (s : St K V) (k : K) : (evictOne s k).queue = s.queue := rfl
@[simp] theorem evictOne_rc (s : St K V) (k : K) : (evictOne s k).rc = s.rc := rfl
@[simp] theorem evictOne_uc (s : St K V) (k : K) : (evictOne s k).uc = s.uc := rfl
@[simp] theorem evictOne_swap (s : St K V) (k : K) : (evictOne s k).c.swap = s.c.swap :=
  dump1_swap s.c k
@[simp] theorem evictOne_archived (s : St K V) (k : K) : (evictOne s k).c.archived = s.c.archived :=
  dump1_archived s.c k

theorem evalDirect_c (s : St K V) (fn : Except Exc V) : (evalDirect s fn).1.c = s.c := by
  unfold evalDirect; split <;> rfl

theorem nsmallest_subset (n : Nat) (uc : List (K × Nat)) : ∀ p ∈ nsmallest n uc, p ∈ uc :=
  fun _ hp => List.mem_mergeSort.mp (List.mem_of_mem_take hp)

theorem length_nsmallest (n : Nat) (uc : List (K × Nat)) : (nsmallest n uc).length = min n uc.length := by
  simp [nsmallest, List.length_take, List.length_mergeSort]

theorem nsmallest_le (n : Nat) (uc : List (K × Nat)) :
    ∀ a ∈ nsmallest n uc, ∀ b ∈ uc, b ∉ nsmallest n uc → a.2 ≤ b.2 := by
  intro a ha b hb hnot
  have hs := List.pairwise_mergeSort (le := fun a b : K × Nat => decide (a.2 ≤ b.2))
    (fun _ _ _ h1 h2 => decide_eq_true (Nat.le_trans (of_decide_eq_true h1) (of_decide_eq_true h2)))
    (fun a b => by simpa using Nat.le_total a.2 b.2) uc
  have hb' := List.mem_mergeSort (le := fun a b : K × Nat => decide (a.2 ≤ b.2)) |>.mpr hb
  rw [← List.take_append_drop n (uc.mergeSort _)] at hs hb'
  exact of_decide_eq_true ((List.pairwise_append.mp hs).2.2 a ha b ((List.mem_append.mp hb').resolve_left hnot))

theorem lfu_fold_induction {P : St K V → Prop} (vs : List (K × Nat)) {s : St K V} (h : P s)
    (step : ∀ s k, P s → P { evictOne s k with uc := erase s.uc k }) :
    P (vs.foldl (fun s p => { evictOne s p.1 with uc := erase s.uc p.1 }) s) := by
  induction vs generalizing s with
  | nil => exact h
  | cons p vs ih => exact ih (step s p.1 h)

/-- what the `# purge cache` block returns when it does not raise -/
inductive OverflowTo (cfg : Cfg) (s : St K V) (victim : Option K) : St K V → Prop
  | fits : s.c.mem.length ≤ cfg.maxsize → OverflowTo cfg s victim s
  | unbounded : cfg.algo = .no ∨ cfg.algo = .inf → OverflowTo cfg s victim s
  | rrNone : cfg.algo = .rr → victim = none → OverflowTo cfg s victim s
  | purge : s.c.archived = true → cfg.purge = true →
      OverflowTo cfg s victim { s with c := s.c.dumpAll.clearMem, queue := [], rc := [], uc := [] }
  | lfu : cfg.algo = .lfu → OverflowTo cfg s victim
      ((nsmallest (max 2 (cfg.maxsize / 10)) s.uc).foldl (fun s p => { evictOne s p.1 with uc := erase s.uc p.1 }) s)
  | lru (k q rc) : cfg.algo = .lru → lruLoop s.queue s.rc = some (k, q, rc) →
      OverflowTo cfg s victim { evictOne s k with queue := q, rc := erase rc k }
  | mru (k) : cfg.algo = .mru → s.queue.getLast? = some k →
      OverflowTo cfg s victim { evictOne s k with queue := s.queue.dropLast }
  | rr (k) : cfg.algo = .rr → victim = some k → OverflowTo cfg s victim (evictOne s k)

theorem overflow_some {cfg : Cfg} {s s' : St K V} {victim : Option K} (h : overflow cfg s victim = some s') :
    OverflowTo cfg s victim s' := by
  unfold overflow at h
  by_cases hover : s.c.mem.length > cfg.maxsize
  · rw [if_pos hover] at h
    by_cases hp : (s.c.archived && cfg.purge) = true
    · rw [if_pos hp] at h; cases h
      rw [Bool.and_eq_true] at hp; exact .purge hp.1 hp.2
    · rw [if_neg hp] at h
      cases ha : cfg.algo <;> simp only [ha] at h
      · cases h; exact .unbounded (Or.inl ha)
      · cases h; exact .unbounded (Or.inr ha)
      · cases h; exact .lfu ha
      · cases hl : lruLoop s.queue s.rc with
        | none => rw [hl] at h; cases h
        | some r => rw [hl] at h; cases h; exact .lru _ _ _ ha hl
      · cases hk : s.queue.getLast? with
        | none => rw [hk] at h; cases h
        | some k => rw [hk] at h; cases h; exact .mru k ha hk
      · cases victim with
        | none => cases h; exact .rrNone ha rfl
        | some k => cases h; exact .rr k ha rfl
  · rw [if_neg hover] at h; cases h; exact .fits (Nat.le_of_not_gt hover)

theorem overflow_of_le (cfg : Cfg) (s : St K V) (vi : Option K) (h : s.c.mem.length ≤ cfg.maxsize) :
    overflow cfg s vi = some s :=
  if_neg (Nat.not_lt.mpr h)

theorem finish_cases (cfg : Cfg) (s2 : St K V) (k : K) (v : V) (n : Nat) (vi : Option K) :
    cfg.algo = .inf ∧ finish cfg s2 k v n vi = (s2, .ret v n) ∨
    finish cfg s2 k v n vi = (s2, .raised .indexError n) ∨
    ∃ s3, overflow cfg s2 vi = some s3 ∧ finish cfg s2 k v n vi = (post cfg s3 k, .ret v n) := by
  unfold finish
  split
  · exact Or.inl ⟨‹_›, rfl⟩
  · split
    · exact Or.inr (Or.inl rfl)
    · exact Or.inr (Or.inr ⟨_, ‹_›, rfl⟩)

theorem finish_out (cfg : Cfg) (s2 : St K V) (k : K) (v : V) (n : Nat) (vi : Option K) :
    (finish cfg s2 k v n vi).2 = .ret v n ∨ (finish cfg s2 k v n vi).2 = .raised .indexError n := by
  rcases finish_cases cfg s2 k v n vi with ⟨_, h⟩ | h | ⟨_, _, h⟩ <;> rw [h]
  · exact Or.inl rfl
  · exact Or.inr rfl
  · exact Or.inl rfl

/-- `callCached` with the tail of the LOAD and MISS paths left open (M3: `finish cfg`; M3F: `finishF r cfg`):
the two models differ in nothing else -/
def callCachedWith (fin : St K V → K → V → Nat → Option K → St K V × Out V) (cfg : Cfg) (s : St K V)
    (ci : CallIn K V) : St K V × Out V :=
  match ci.key with
  | .genError e => keyFail cfg s ci.fn e
  | .unhashable e => keyFail cfg s ci.fn e
  | .ok k =>
    match get? s.c.mem k with
    | some v => hitStep cfg s k v
    | none =>
      match get? (s.c.preload k).mem k with
      | some v =>
        let s1 := useKey cfg { s with c := s.c.preload k } k
        fin { s1 with load := s1.load + 1 } k v 0 ci.victim
      | none =>
        match ci.fn with
        | .error e => (s, .raised e 1)
        | .ok v =>
          let c1 := s.c.preload k
          let s1 := useKey cfg { s with c := { c1 with mem := put c1.mem k v } } k
          fin { s1 with miss := s1.miss + 1 } k v 1 ci.victim

theorem callCached_eq_with (cfg : Cfg) (s : St K V) (ci : CallIn K V) :
    callCached cfg s ci = callCachedWith (finish cfg) cfg s ci := rfl

/-- the paths of a call, uniformly in the tail `fin`; LOAD and MISS are told apart by `aget`, which is what `preload`
finds (`preload_get_self`) -/
theorem callCachedWith_cases
    {motive : ((St K V → K → V → Nat → Option K → St K V × Out V) → St K V × Out V) → Prop}
    (cfg : Cfg) (s : St K V) (ci : CallIn K V)
    (keyFail : ∀ e, ci.key = .genError e ∨ ci.key = .unhashable e → motive fun _ => keyFail cfg s ci.fn e)
    (hit : ∀ k v, ci.key = .ok k → get? s.c.mem k = some v → motive fun _ => hitStep cfg s k v)
    (load : ∀ k v, ci.key = .ok k → get? s.c.mem k = none → s.c.aget k = some v →
      motive fun fin => fin { useKey cfg { s with c := s.c.preload k } k with
        load := (useKey cfg { s with c := s.c.preload k } k).load + 1 } k v 0 ci.victim)
    (raise : ∀ k e, ci.key = .ok k → get? s.c.mem k = none → s.c.aget k = none → ci.fn = .error e →
      motive fun _ => (s, .raised e 1))
    (miss : ∀ k v, ci.key = .ok k → get? s.c.mem k = none → s.c.aget k = none → ci.fn = .ok v →
      motive fun fin => fin { useKey cfg { s with c := { s.c.preload k with mem := put (s.c.preload k).mem k v } } k with
        miss := (useKey cfg { s with c := { s.c.preload k with mem := put (s.c.preload k).mem k v } } k).miss + 1 }
        k v 1 ci.victim) :
    motive fun fin => callCachedWith fin cfg s ci := by
  unfold callCachedWith
  cases hk : ci.key with
  | genError e => exact keyFail e (Or.inl hk)
  | unhashable e => exact keyFail e (Or.inr hk)
  | ok k =>
    dsimp only
    cases hm : get? s.c.mem k with
    | some v => exact hit k v hk hm
    | none =>
      rw [preload_get_self]
      cases ha : s.c.aget k with
      | some v => exact load k v hk hm ha
      | none =>
        dsimp only
        rw [hm]
        cases hf : ci.fn with
        | error e => exact raise k e hk hm ha hf
        | ok v => exact miss k v hk hm ha hf

theorem callCached_cases {motive : St K V × Out V → Prop} (cfg : Cfg) (s : St K V) (ci : CallIn K V)
    (keyFail : ∀ e, ci.key = .genError e ∨ ci.key = .unhashable e → motive (keyFail cfg s ci.fn e))
    (hit : ∀ k v, ci.key = .ok k → get? s.c.mem k = some v → motive (hitStep cfg s k v))
    (load : ∀ k v, ci.key = .ok k → get? s.c.mem k = none → s.c.aget k = some v →
      motive (loadStep cfg s k v ci.victim))
    (raise : ∀ k e, ci.key = .ok k → get? s.c.mem k = none → s.c.aget k = none → ci.fn = .error e →
      motive (s, .raised e 1))
    (miss : ∀ k v, ci.key = .ok k → get? s.c.mem k = none → s.c.aget k = none → ci.fn = .ok v →
      motive (missStep cfg s k v ci.victim)) :
    motive (callCached cfg s ci) :=
  callCachedWith_cases (motive := fun f => motive (f (finish cfg))) cfg s ci keyFail hit load raise miss

/-- the paths of a `no_cache` call; `found`: in the archive, else in memory (`preload_get_self`) -/
theorem callNo_cases {motive : St K V × Out V → Prop} (cfg : Cfg) (s : St K V) (ci : CallIn K V)
    (genError : ∀ e, ci.key = .genError e → motive (keyFail cfg s ci.fn e))
    (unhashStd : ∀ e, ci.key = .unhashable e → cfg.safe = false → motive (s, .raised e 0))
    (unhashRaise : ∀ e e', ci.key = .unhashable e → cfg.safe = true → ci.fn = .error e' → motive (s, .raised e' 1))
    (unhashEval : ∀ e v, ci.key = .unhashable e → cfg.safe = true → ci.fn = .ok v →
      motive ({ s with c := (if s.c.archived then s.c.dumpAll else s.c).clearMem, miss := s.miss + 1 }, .ret v 1))
    (found : ∀ k v, ci.key = .ok k → get? (s.c.preload k).mem k = some v →
      motive ({ s with c := (s.c.preload k).clearMem, load := s.load + 1 }, .ret v 0))
    (raise : ∀ k e, ci.key = .ok k → get? (s.c.preload k).mem k = none → ci.fn = .error e → motive (s, .raised e 1))
    (miss : ∀ k v, ci.key = .ok k → get? (s.c.preload k).mem k = none → ci.fn = .ok v →
      motive ({ s with
        c := (if ({ s.c.preload k with mem := put (s.c.preload k).mem k v } : Cache K V).archived
          then ({ s.c.preload k with mem := put (s.c.preload k).mem k v } : Cache K V).dumpAll
          else { s.c.preload k with mem := put (s.c.preload k).mem k v }).clearMem,
        miss := s.miss + 1 }, .ret v 1)) :
    motive (callNo cfg s ci) := by
  unfold callNo
  cases hk : ci.key with
  | genError e => exact genError e hk
  | unhashable e =>
    cases hs : cfg.safe with
    | false => exact unhashStd e hk hs
    | true =>
      cases hf : ci.fn with
      | error e' => exact unhashRaise e e' hk hs hf
      | ok v => exact unhashEval e v hk hs hf
  | ok k =>
    simp only
    cases hl : get? (s.c.preload k).mem k with
    | some v => exact found k v hk hl
    | none =>
      cases hf : ci.fn with
      | error e => exact raise k e hk hl hf
      | ok v => exact miss k v hk hl hf

@[simp] theorem keyFail_c (cfg : Cfg) (s : St K V) (fn : Except Exc V) (e : Exc) : (keyFail cfg s fn e).1.c = s.c := by
  unfold keyFail; split <;> simp [evalDirect_c]

@[simp] theorem hitStep_c (cfg : Cfg) (s : St K V) (k : K) (v : V) : (hitStep cfg s k v).1.c = s.c := by
  simp only [hitStep, post_c]; split <;> simp

theorem cget_put (m : List (K × Int)) (k j : K) (x : Int) :
    cget (put m k x) j = if j = k then x else cget m j := by
  unfold cget; rw [get?_put]; split <;> simp

theorem cget_erase (m : List (K × Int)) (k j : K) (h : (keys m).Nodup) :
    cget (erase m k) j = if j = k then 0 else cget m j := by
  unfold cget; rw [get?_erase m k j h]; split <;> simp

theorem ucget_put (m : List (K × Nat)) (k j : K) (x : Nat) :
    ucget (put m k x) j = if j = k then x else ucget m j := by
  unfold ucget; rw [get?_put]; split <;> simp

theorem step_lookup_fst (cfg : Cfg) (s : St K V) (key : KeyIn K) : (step cfg s (.lookup key)).1 = s := by
  cases key with
  | ok k => dsimp only [step]; cases get? s.c.mem k <;> rfl
  | _ => rfl

theorem call_eq_callCached {cfg : Cfg} (hno : cfg.algo ≠ .no) (s : St K V) (ci : CallIn K V) :
    call cfg s ci = callCached cfg s ci := if_neg hno

/-- the operations that can change which keys are resident -/
def Op.touchesMem : Op K V → Bool
  | .call _ | .load _ | .loadAll | .clear _ => true
  | _ => false

theorem step_sameMem (cfg : Cfg) (s : St K V) (op : Op K V) (h : op.touchesMem = false) :
    ∃ c', (step cfg s op).1 = { s with c := c' } ∧ c'.mem = s.c.mem := by
  cases op with
  | call _ | load _ | loadAll | clear _ => cases h
  | lookup key => exact ⟨s.c, step_lookup_fst cfg s key, rfl⟩
  | archivedQ | info => exact ⟨s.c, rfl, rfl⟩
  | dump _ | dumpAll | extPut _ _ | extDel _ => exact ⟨_, rfl, by simp⟩
  | archivedOn =>
    dsimp only [step]
    cases hc : s.c.archivedOn with
    | some c' => exact ⟨c', rfl, archivedOn_mem _ _ hc⟩
    | none => exact ⟨s.c, rfl, rfl⟩
  | archivedOff =>
    dsimp only [step]
    cases hc : s.c.archivedOff with
    | some c' => exact ⟨c', rfl, archivedOff_mem _ _ hc⟩
    | none => exact ⟨s.c, rfl, rfl⟩
  | setArchive a =>
    dsimp only [step]
    cases s.c.bare with
    | true => exact ⟨s.c, rfl, rfl⟩
    | false => exact ⟨_, rfl, by simp⟩

/-- on a key failure every wrapper is `keyFail` - except `safe.no_cache` with an unhashable key, which also runs
its purge (`C16_safe_no_unhashable`) -/
theorem call_keyFail (cfg : Cfg) (s : St K V) (ci : CallIn K V) (e : Exc)
    (hk : ci.key = .genError e ∨ ci.key = .unhashable e)
    (h : cfg.algo ≠ .no ∨ ci.key = .genError e ∨ cfg.safe = false) : call cfg s ci = keyFail cfg s ci.fn e := by
  unfold call callNo callCached
  rcases hk with hk | hk <;> rw [hk]
  · exact ite_self _
  · rcases h with h | h | h
    · rw [if_neg h]
    · rw [hk] at h; cases h
    · unfold keyFail; simp [h]

theorem run_induction {cfg : Cfg} {P : St K V → Prop} (ops : List (Op K V))
    (hstep : ∀ s, P s → ∀ op ∈ ops, P (step cfg s op).1) (s : St K V) (h : P s) : P (run cfg s ops).1 := by
  induction ops generalizing s with
  | nil => exact h
  | cons op ops ih =>
    exact ih (fun s hs o ho => hstep s hs o (List.mem_cons_of_mem _ ho)) _ (hstep s h op List.mem_cons_self)

theorem run_append (cfg : Cfg) (s : St K V) (a b : List (Op K V)) :
    (run cfg s (a ++ b)).1 = (run cfg (run cfg s a).1 b).1 := by
  induction a generalizing s with
  | nil => rfl
  | cons op a ih => simp only [List.cons_append, run]; exact ih _

/-- the three counters of `info()` -/
def St.stats (s : St K V) : Nat × Nat × Nat := (s.hit, s.miss, s.load)

theorem overflow_stats (cfg : Cfg) (s s' : St K V) (victim : Option K)
    (h : overflow cfg s victim = some s') : s'.stats = s.stats := by
  cases overflow_some h with
  | lfu => exact lfu_fold_induction (P := fun s' => s'.stats = s.stats) _ rfl fun _ _ h => h
  | _ => rfl

@[simp] theorem post_stats (cfg : Cfg) (s : St K V) (k : K) : (post cfg s k).stats = s.stats := by
  simp [St.stats]

@[simp] theorem useKey_stats (cfg : Cfg) (s : St K V) (k : K) : (useKey cfg s k).stats = s.stats := by
  simp [St.stats]

theorem finish_stats (cfg : Cfg) (s2 : St K V) (k : K) (v : V) (n : Nat) (vi : Option K) :
    (finish cfg s2 k v n vi).1.stats = s2.stats := by
  rcases finish_cases cfg s2 k v n vi with ⟨_, h⟩ | h | ⟨s3, ho, h⟩ <;> rw [h]
  exact (post_stats cfg s3 k).trans (overflow_stats cfg s2 s3 vi ho)

end Klepto
