import Klepto.Props.Refuse
import Klepto.Props.C02
/-!
# C02 / C16 when the archive refuses a write-back (model M3F)

Whether - and how often - the function is evaluated does not depend on what the archive refuses: the
evaluation happens before the `# purge cache` block (`callF_evals`).  So C02's one-step statement holds of M3F
as it stands (`C02_refused_eval_iff`: all twelve wrappers, every archive), and so does C16's "never more than
once".
-/
namespace Klepto.C02
variable {K V : Type} [DecidableEq K]

theorem finishF_evals (r : Refuse V) (cfg : Cfg) (s : St K V) (k : K) (v : V) (n : Nat) (vi : Option K) :
    evalsOf (finishF r cfg s k v n vi).2 = n := by
  rcases finishF_cases r cfg s k v n vi with h | ⟨s', _, h⟩ <;> rw [h]
  · exact C16.finish_evals cfg s k v n vi
  · rfl

/-- the number of evaluations of a call is M3's, whatever the archive refuses (all twelve wrappers) -/
theorem callF_evals (r : Refuse V) (cfg : Cfg) (s : St K V) (ci : CallIn K V) :
    evalsOf (callF r cfg s ci).2 = evalsOf (call cfg s ci).2 := by
  unfold callF call
  split
  · rcases callNoF_cases r cfg s ci with h | ⟨_, c, v, h, h'⟩
    · rw [h]
    · rw [h, h']; rfl
  · exact callCachedF_lift r cfg s ci (R := fun x y => evalsOf x.2 = evalsOf y.2) (fun _ => rfl)
      fun s2 k v n => (finishF_evals r cfg s2 k v n _).trans (C16.finish_evals cfg s2 k v n _).symm

/-- **the function is evaluated exactly when no stored result is retrievable - over every archive, whatever it
refuses** -/
theorem C02_refused_eval_iff (r : Refuse V) (cfg : Cfg) (s : St K V) (ci : CallIn K V) (k : K) (hk : ci.key = .ok k) :
    evalsOf (callF r cfg s ci).2 = if Retrievable s.c k then 0 else 1 := by
  rw [callF_evals]; exact C02_eval_iff cfg s ci k hk

end Klepto.C02

namespace Klepto.C16
open AMap
variable {K V : Type} [DecidableEq K]
/-- ... and never more than once -/
theorem C16_refused_single_evaluation (r : Refuse V) (cfg : Cfg) (s : St K V) (ci : CallIn K V) :
    evalsOf (callF r cfg s ci).2 ≤ 1 :=
  Nat.le_trans (Nat.le_of_eq (C02.callF_evals r cfg s ci)) (C16_single_evaluation cfg s ci)

/-- **the function raises: the same exception, one evaluation, and the state exactly as if the call had not been
made** - over every archive, whatever it refuses (all twelve wrappers; the archive is not even asked to store) -/
theorem C16_refused_function_raises (r : Refuse V) (cfg : Cfg) (s : St K V) (ci : CallIn K V) (k : K) (e : Exc)
    (hk : ci.key = .ok k) (hm : get? s.c.mem k = none) (hl : get? (s.c.preload k).mem k = none)
    (hf : ci.fn = .error e) : callF r cfg s ci = (s, .raised e 1) := by
  unfold callF
  split
  · unfold callNoF; simp only [hk, hl, hf]
  · unfold callCachedF; simp only [hk, hm, hl, hf]

end Klepto.C16
