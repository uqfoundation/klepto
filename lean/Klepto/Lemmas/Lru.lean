import Klepto.Lemmas.Basic
/-! LRU bookkeeping: the `popleft` loop over `(queue, refcount)` and the queue compaction
refine a *recency list* (`dkl`: distinct keys ordered by last occurrence, oldest first). -/
namespace Klepto
open AMap
variable {K : Type} [DecidableEq K]

/-- `refcount[k]` = number of occurrences of `k` in the queue -/
def RcInv (q : List K) (rc : List (K × Int)) : Prop := ∀ k, cget rc k = (q.count k : Int)

theorem count_eq_zero_of_not_mem' (q : List K) (k : K) (h : k ∉ q) : (q.count k : Int) = 0 := by
  simp [List.count_eq_zero_of_not_mem h]

theorem rcInv_pop {q : List K} {rc : List (K × Int)} {k : K} (h : RcInv (k :: q) rc) :
    RcInv q (put rc k (cget rc k - 1)) := by
  intro j
  have := h j
  rw [cget_put]
  by_cases hj : j = k
  · subst hj; rw [List.count_cons_self] at this; simp [this]
  · rw [List.count_cons_of_ne (Ne.symm hj)] at this; simp [hj, this]

theorem rcInv_use {q : List K} {rc : List (K × Int)} (k : K) (h : RcInv q rc) :
    RcInv (q ++ [k]) (put rc k (cget rc k + 1)) := by
  intro j
  rw [cget_put, h k, List.count_append, List.count_singleton]
  by_cases hj : j = k
  · subst hj; simp
  · simp [hj, Ne.symm hj, h j]

theorem rcInv_erase {q : List K} {rc : List (K × Int)} {k : K} (h : RcInv q rc) (hn : (keys rc).Nodup)
    (hk : k ∉ q) : RcInv q (erase rc k) := by
  intro j
  rw [cget_erase _ _ _ hn]
  split
  · next hj => rw [hj, count_eq_zero_of_not_mem' q k hk]
  · exact h j

/-- a duplicate-free queue with every count 1: the state after compaction -/
theorem rcInv_ones {q : List K} (hq : q.Nodup) :
    RcInv q (q.map fun k => (k, (1 : Int))) ∧ (keys (q.map fun k => (k, (1 : Int)))).Nodup := by
  refine ⟨fun j => ?_, by simpa [keys, Function.comp_def] using hq⟩
  rw [hq.count]
  induction q with
  | nil => rfl
  | cons a q ih =>
    have := List.nodup_cons.mp hq
    by_cases h : a = j
    · subst h; simp [cget, get?]
    · simp only [List.map_cons, cget, get?, h, if_false, List.mem_cons, Ne.symm h, false_or]
      exact ih this.2

/-- recency list: distinct keys ordered by last occurrence (oldest first) -/
def dkl : List K → List K
  | [] => []
  | k :: q => if k ∈ q then dkl q else k :: dkl q

theorem mem_dkl (q : List K) (x : K) : x ∈ dkl q ↔ x ∈ q := by
  fun_induction dkl q <;> grind

theorem nodup_dkl (q : List K) : (dkl q).Nodup := by
  induction q with
  | nil => simp [dkl]
  | cons k q ih =>
    simp only [dkl]; split
    · exact ih
    · rename_i h; exact List.nodup_cons.mpr ⟨fun hh => h ((mem_dkl q k).mp hh), ih⟩

theorem dkl_of_nodup (q : List K) (h : q.Nodup) : dkl q = q := by
  induction q with
  | nil => rfl
  | cons k q ih =>
    have := List.nodup_cons.mp h
    simp [dkl, this.1, ih this.2]

/-- the code's compaction (pop from the right, `appendleft` unseen keys) is `dkl` -/
theorem compactQ_eq_dkl (q : List K) : compactQ q = dkl q := by
  unfold compactQ
  rw [List.foldl_reverse]
  induction q with
  | nil => simp [dkl]
  | cons k q ih =>
    simp only [List.foldr_cons, dkl]
    rw [ih]
    by_cases h : k ∈ q <;> simp [h, mem_dkl]

/-- a use of `k` moves it to the most-recent end of the recency list -/
theorem dkl_append (q : List K) (k : K) : dkl (q ++ [k]) = (dkl q).filter (· ≠ k) ++ [k] := by
  induction q <;> grind [dkl]

theorem mem_of_dkl_eq_cons {q post : List K} {v : K} (h : dkl q = v :: dkl post) :
    v ∉ post ∧ ∀ x, x ∈ q ↔ x = v ∨ x ∈ post := by
  have hn := nodup_dkl q
  rw [h] at hn
  refine ⟨fun hv => (List.nodup_cons.mp hn).1 ((mem_dkl post v).mpr hv), fun x => ?_⟩
  rw [← mem_dkl q, h, List.mem_cons, mem_dkl]

/-- under the invariant the loop never underflows, and its test `refcount[k] = 0` is `k ∉ q`, the test of `dkl` -/
theorem lruLoop_spec : ∀ (q : List K) (rc : List (K × Int)), RcInv q rc → q ≠ [] →
    ∃ v post rc', lruLoop q rc = some (v, post, rc') ∧ dkl q = v :: dkl post ∧ RcInv post rc' ∧
      ((keys rc).Nodup → (keys rc').Nodup) := by
  intro q
  induction q with
  | nil => exact fun _ _ h => absurd rfl h
  | cons k q ih =>
    intro rc hinv _
    have hinv' := rcInv_pop hinv
    have hc := hinv' k
    dsimp only [lruLoop, dkl]
    by_cases hk : k ∈ q
    · have : cget (put rc k (cget rc k - 1)) k ≠ 0 := by
        rw [hc]; exact Int.natCast_ne_zero.mpr (Nat.ne_of_gt (List.count_pos_iff.mpr hk))
      obtain ⟨v, post, rc', he, hd, hi, hn⟩ := ih _ hinv' (List.ne_nil_of_mem hk)
      rw [if_neg this, if_pos hk]
      exact ⟨v, post, rc', he, hd, hi, fun h0 => hn (nodup_keys_put _ _ _ h0)⟩
    · have : cget (put rc k (cget rc k - 1)) k = 0 := by
        rw [hc, count_eq_zero_of_not_mem' q k hk]
      rw [if_pos this, if_neg hk]
      exact ⟨k, q, _, rfl, rfl, hinv', nodup_keys_put _ _ _⟩

theorem lruLoop_mem : ∀ (q : List K) (rc : List (K × Int)) v q' rc',
    lruLoop q rc = some (v, q', rc') → v ∈ q ∧ ∀ x ∈ q', x ∈ q := by
  intro q
  induction q with
  | nil => exact fun _ _ _ _ h => nomatch h
  | cons k q ih =>
    intro rc v q' rc' h
    dsimp only [lruLoop] at h
    split at h
    · cases h
      exact ⟨List.mem_cons_self, fun x hx => List.mem_cons_of_mem _ hx⟩
    · have := ih _ v q' rc' h
      exact ⟨List.mem_cons_of_mem _ this.1, fun x hx => List.mem_cons_of_mem _ (this.2 x hx)⟩

end Klepto
