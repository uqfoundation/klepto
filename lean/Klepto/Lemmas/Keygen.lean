import Klepto.Lemmas.Bind
/-! `_keygen` computes the CPython binding (plain functions, no ignore specification): the core of C09 and C10.
`maskFrom_eq_mapIdx` (any index set) also serves C11. -/
namespace Klepto.Keys
open Klepto.AMap
variable {Val : Type}

theorem keys_zip (l : List Val) (a : List Val) : keys (l.zip a) = l.take a.length := by
  induction l generalizing a with
  | nil => simp only [List.zip_nil_left, keys, List.map_nil, List.take_nil]
  | cons x l ih =>
    cases a with
    | nil => rfl
    | cons b bs => exact congrArg (x :: ·) (ih bs)

theorem keys_zip_nodup (ns : List Val) (args : List Val) (h : ns.Nodup) : (keys (ns.zip args)).Nodup := by
  rw [keys_zip]; exact (List.take_sublist _ _).nodup h

theorem maskFrom_eq_mapIdx (k : Consts Val) (p : IgnPlan Val) (hs : p.star = false) (i : Nat) (l : List Val) :
    maskFrom k p i l = l.mapIdx fun j a => if p.idx.contains (i + j) then k.null else a := by
  induction l generalizing i with
  | nil => rfl
  | cons a as ih =>
    simp only [maskFrom, hs, Bool.false_and, Bool.false_eq_true, if_false, ih, List.mapIdx_cons, Nat.add_zero,
      Nat.add_assoc, Nat.add_comm 1]

theorem maskFrom_id (k : Consts Val) (p : IgnPlan Val) (hs : p.star = false) (hi : p.idx = []) (i : Nat) (l : List Val) :
    maskFrom k p i l = l := by
  rw [maskFrom_eq_mapIdx k p hs, hi]
  exact List.ext_getElem? fun j => by rw [List.getElem?_mapIdx]; exact Option.map_id'

theorem enum_map_snd {α : Type} (l : List α) : (enum l).map (·.2) = l := by
  unfold enum
  rw [List.map_snd_zip]
  simp

variable [DecidableEq Val]

theorem update_nil (m : List (Val × Val)) : update m [] = m := rfl

theorem kSignature_plain (f : Func Val) (hpl : Plain f) :
    kSignature f = some (names f.pos, update (defaultsOf f.pos) (defaultsOf f.kwonly)) := by
  obtain ⟨h1, h2, h3⟩ := hpl
  simp [kSignature, h1, h2, h3, has, get?, update, filter_true]

theorem ignPlan_nil (k : Consts Val) (e : List Val) (sl : Bool) (ko : List Val) :
    ignPlan k e [] sl ko = { explicit := e, selfRemoved := false, selfName := e.head?, idx := [], nms := [],
                             star := false, dstar := false, keep := ko } := by
  cases e <;> simp [ignPlan, ignIdx, ignNames]

theorem keygenWith_noIgnore (k : Consts Val) (p : IgnPlan Val) (d : List (Val × Val)) (c : PCall Val)
    (h1 : p.selfRemoved = false) (h2 : p.idx = []) (h3 : p.nms = []) (h4 : p.star = false) (h5 : p.dstar = false) :
    keygenWith k p d c = (c.args.drop p.explicit.length, update (update d c.kwds) (p.explicit.zip c.args)) := by
  simp [keygenWith, maskArgs, maskFrom_id k p h4 h2, h1, h3, h5]

theorem keygen_plain (k : Consts Val) (f : Func Val) (c : PCall Val) (hp : Plain f) :
    keygen k f [] c = (c.args.drop f.pos.length,
      update (update (update (defaultsOf f.pos) (defaultsOf f.kwonly)) c.kwds) ((names f.pos).zip c.args)) := by
  simp only [keygen, kSignature_plain f hp, ignPlan_nil]
  rw [keygenWith_noIgnore k _ _ c rfl rfl rfl rfl rfl]
  simp only [names, List.length_map]

theorem keygen_nodup (k : Consts Val) (f : Func Val) (c : PCall Val) (hpl : Plain f)
    (hwf : (names f.pos ++ names f.kwonly).Nodup) : (keys (keygen k f [] c).2).Nodup := by
  rw [keygen_plain k f c hpl]
  exact nodup_keys_update _ _ (nodup_keys_update _ _ (nodup_keys_update _ _
    ((keys_defaultsOf_sublist _).nodup (List.nodup_append.mp hwf).1)))

/-- **keygen computes the binding** (plain function, no ignore specification): whenever CPython
accepts the call, `_keygen` returns the extra positionals unchanged and a dict that maps exactly the
bound names to the bound values. -/
theorem keygen_eq_bind (k : Consts Val) (self : Val) (f : Func Val) (c : PCall Val) (b : Binding Val)
    (hpl : Plain f)
    (hwf : (names f.pos ++ names f.kwonly).Nodup) (hk : (keys c.kwds).Nodup)
    (hb : bind self f c = some b) :
    (keygen k f [] c).1 = b.extraPos ∧
    ∀ n, get? (keygen k f [] c).2 n = get? (b.named ++ b.extraKw) n := by
  rw [bind_plain self f c hpl hk, bindPlain_eq, Option.ite_none_right_eq_some, Option.some.injEq] at hb
  obtain ⟨-, rfl⟩ := hb
  rw [keygen_plain k f c hpl, update_defaultsOf _ _ hwf]
  refine ⟨rfl, fun n => ?_⟩
  have hall : (names (f.pos ++ f.kwonly)).Nodup := by rw [names_append]; exact hwf
  have hrest : (names (f.pos.drop c.args.length ++ f.kwonly)).Nodup :=
    (((List.drop_sublist _ _).append_right _).map _).nodup hall
  -- the code: positionals, else keywords, else defaults; the specification: `named`, else the extra keywords
  rw [get?_update_nodup _ _ _ (keys_zip_nodup _ _ (List.nodup_append.mp hwf).1), get?_update_nodup _ _ _ hk,
    get?_append, get?_append, get?_filter_key, defaultsOf_eq_pick]
  cases hz : get? ((names f.pos).zip c.args) n with
  | some v => rfl
  | none =>
    have hnt : n ∉ names (f.pos.take c.args.length) := by
      rw [names, List.map_take, ← names, ← keys_zip, ← get?_eq_none_iff]; exact hz
    simp only [Option.none_or]
    by_cases hn : n ∈ names (f.pos.drop c.args.length ++ f.kwonly)
    · -- a parameter that no positional argument reaches: its keyword, else its default
      obtain ⟨p, hp, rfl⟩ := List.mem_map.mp hn
      have hp' : p ∈ f.pos ++ f.kwonly := List.mem_append.mpr ((List.mem_append.mp hp).imp_left List.mem_of_mem_drop)
      rw [get?_pick _ _ hrest p hp, get?_pick _ _ hall p hp',
        (isExtra_eq_false f p.name).mpr (names_append f.pos f.kwonly ▸ List.mem_map_of_mem hp'), kwOrDflt]
      exact (Option.or_none).symm
    · -- no parameter: an extra keyword, or nothing
      have hno : n ∉ names (f.pos ++ f.kwonly) := by
        rw [← List.take_append_drop c.args.length f.pos, List.append_assoc, names_append]
        exact fun h => (List.mem_append.mp h).elim hnt hn
      rw [get?_pick_of_not_mem _ _ _ hn, get?_pick_of_not_mem _ _ _ hno,
        eq_true_of_ne_false fun h => hno (names_append f.pos f.kwonly ▸ (isExtra_eq_false f n).mp h)]
      cases get? c.kwds n <;> rfl

end Klepto.Keys
