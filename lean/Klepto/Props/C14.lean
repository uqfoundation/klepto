import Klepto.Lemmas.Sched
import Klepto.Props.C13
/-!
# C14 — Concurrent processes: no lost entries, no phantom or torn reads

Model: `Model/Sched.lean` — processes taking atomic steps on one shared disk (M8), under an arbitrary
schedule (`runDir`, `runFile`): what suite `sched` replays and the witnesses below are `decide`d on.  The quantified
theorems speak of its ingredients - an `Interleave` of the writers' programs, a reader `rrun` over a `GrowingChain`
of disks; no theorem derives these from a schedule.  Writers are their system-call programs; `dir_archive` readers are state machines over the
archive's read helpers; `file_archive` processes read the whole file, writers then save what they
computed from what they read.  Suite `sched` replays every recorded schedule of real, gated processes
on this model (answers, programs, final contents).

* `C14_dir_writers_disjoint` — two writers storing under different names, **every interleaving** of
  their system calls: the disk ends as if one had run after the other, so both entries are there
  complete and every other entry is untouched (`C14_dir_both_present`).  The core is
  `vstep_comm`/`vrun_interleave`: calls that name different directories commute.
* `C14_dir_snapshot_reads` — at every point of every interleaving each of the two names reads as
  after some prefix of its own writer's program alone, every other name as before: a single-call
  reader (`d[k]`, `k in d`) of another key is never disturbed.  (A prefix state is one of the crash
  states C13 speaks of; no theorem here says so.)
* `C14_listing_vs_adders` — a listing (`keys()`, `__asdict__()`) racing writers that only add entries: whatever the
  reader holds is backed by the disk (`Good`).
* `C14_file_reader` — `file_archive`, one writer: a reader's single read always returns the complete
  old or the complete new dict.
* `C14_sql_writers_disjoint` — sqlite: committed inserts on different keys commute in the view.
* witnesses (`decide`d on the small-step model, replayed on the code by suite `sched`): a lookup
  during an overwrite finds nothing (F19b); `__asdict__` racing a delete raises `KeyError` (F34) or `keys()` reports
  the directory name of a removed entry as a key (F34b); an opener's `update({})` undoes a concurrent `file_archive`
  write (F20).
-/
namespace Klepto.C14
open AMap Crash Sched
variable {V : Type}

theorem own_disjoint {t₁ t₂ : Nat} {a₁ a₂ : DAct V} (hk : actName a₁ ≠ actName a₂) (ht : t₁ + 2 ≤ t₂ ∨ t₂ + 2 ≤ t₁)
    (m : DName) (h1 : C13.Own t₁ a₁ m) (h2 : C13.Own t₂ a₂ m) : False := by
  cases m with
  | key n => exact hk ((C13.own_key.mp h1).symm.trans (C13.own_key.mp h2))
  | temp i =>
    have := C13.own_temp.mp h1
    have := C13.own_temp.mp h2
    omega

/-- **every interleaving of two writers on different keys ends in the disk that running one after
the other produces** (as a function of directory names) -/
theorem C14_dir_writers_disjoint (ip₁ ip₂ : Bool) (s : DirFS V) (t₁ t₂ : Nat) (a₁ a₂ : DAct V)
    (hn : (keys s).Nodup) (hk : actName a₁ ≠ actName a₂) (ht : t₁ + 2 ≤ t₂ ∨ t₂ + 2 ≤ t₁)
    (l : List (DSys V)) (hl : Interleave (actProg true ip₁ s t₁ a₁) (actProg true ip₂ s t₂ a₂) l) :
    get? (drun s l) = get? (drun (drun s (actProg true ip₁ s t₁ a₁)) (actProg true ip₂ s t₂ a₂)) := by
  rw [get?_drun s l hn, get?_drun _ _ (nodup_drun s _ hn), get?_drun s _ hn]
  exact vrun_interleave _ _ _ l hl fun x hx y hy m hm _ hm' e =>
    own_disjoint hk ht m (C13.actProg_names ip₁ s t₁ a₁ x hx m hm) (e ▸ C13.actProg_names ip₂ s t₂ a₂ y hy _ hm')

/-- `p`, `q` are any programs on the writers' own names, not the writers' programs: the statement is also used for
their prefixes (`C14_dir_snapshot_reads`) -/
theorem writers_views (s : DirFS V) (t₁ t₂ : Nat) (a₁ a₂ : DAct V)
    (hn : (keys s).Nodup) (hk : actName a₁ ≠ actName a₂) (ht : t₁ + 2 ≤ t₂ ∨ t₂ + 2 ≤ t₁) (p q l : List (DSys V))
    (hp : ∀ x ∈ p, ∀ m ∈ sysNames x, C13.Own t₁ a₁ m) (hq : ∀ x ∈ q, ∀ m ∈ sysNames x, C13.Own t₂ a₂ m)
    (hl : Interleave p q l) (m : String) :
    get? (drun s l) (.key m) =
      if m = actName a₁ then get? (drun s p) (.key m)
      else if m = actName a₂ then get? (drun s q) (.key m)
      else get? s (.key m) := by
  have hind : ∀ x ∈ p, ∀ y ∈ q, Indep x y := fun x hx y hy a ha b hb e =>
    own_disjoint hk ht a (hp x hx a ha) (e ▸ hq y hy b hb)
  rw [get?_drun s _ hn, get?_drun s _ hn, get?_drun s _ hn]
  by_cases e₁ : m = actName a₁
  · rw [if_pos e₁]
    exact interleave_frame _ p q l hl hind _ fun y hy hm => own_disjoint hk ht _ (C13.own_key.mpr e₁) (hq y hy _ hm)
  · -- `p` does not mention the name, so it reads as `q` alone left it
    rw [if_neg e₁, interleave_frame (get? s) q p l hl.symm (fun y hy x hx => (hind x hx y hy).symm) (.key m)
      fun x hx hm => e₁ (C13.own_key.mp (hp x hx _ hm))]
    by_cases e₂ : m = actName a₂
    · rw [if_pos e₂]
    · rw [if_neg e₂]; exact vrun_frame _ q _ fun y hy hm => e₂ (C13.own_key.mp (hq y hy _ hm))

/-- after the interleaving, each writer's entry is what that writer alone would have left, and all
other entries are as before: **nothing is lost, nothing is corrupted** -/
theorem C14_dir_both_present (ip₁ ip₂ : Bool) (s : DirFS V) (t₁ t₂ : Nat) (a₁ a₂ : DAct V)
    (hn : (keys s).Nodup) (hk : actName a₁ ≠ actName a₂) (ht : t₁ + 2 ≤ t₂ ∨ t₂ + 2 ≤ t₁)
    (l : List (DSys V)) (hl : Interleave (actProg true ip₁ s t₁ a₁) (actProg true ip₂ s t₂ a₂) l) (m : String) :
    get? (drun s l) (.key m) =
      if m = actName a₁ then get? (drun s (actProg true ip₁ s t₁ a₁)) (.key m)
      else if m = actName a₂ then get? (drun s (actProg true ip₂ s t₂ a₂)) (.key m)
      else get? s (.key m) :=
  writers_views s t₁ t₂ a₁ a₂ hn hk ht _ _ l (C13.actProg_names ip₁ s t₁ a₁) (C13.actProg_names ip₂ s t₂ a₂) hl m

/-- **what a reader can see while two writers on different keys run**: at every point of every
interleaving, the entry of each writer reads as after some prefix of that writer's own program — a
crash state of that writer alone, so C13 applies: old or new for a new key or a removal — and every
other entry reads as before the writers started -/
theorem C14_dir_snapshot_reads (ip₁ ip₂ : Bool) (s : DirFS V) (t₁ t₂ : Nat) (a₁ a₂ : DAct V)
    (hn : (keys s).Nodup) (hk : actName a₁ ≠ actName a₂) (ht : t₁ + 2 ≤ t₂ ∨ t₂ + 2 ≤ t₁)
    (l : List (DSys V)) (hl : Interleave (actProg true ip₁ s t₁ a₁) (actProg true ip₂ s t₂ a₂) l) (k : Nat) :
    ∃ i j, ∀ m, get? (drun s (l.take k)) (.key m) =
      if m = actName a₁ then get? (drun s ((actProg true ip₁ s t₁ a₁).take i)) (.key m)
      else if m = actName a₂ then get? (drun s ((actProg true ip₂ s t₂ a₂).take j)) (.key m)
      else get? s (.key m) := by
  obtain ⟨i, j, hij⟩ := interleave_take _ _ _ hl k
  exact ⟨i, j, writers_views s t₁ t₂ a₁ a₂ hn hk ht _ _ _
    (fun x hx => C13.actProg_names ip₁ s t₁ a₁ x (List.mem_of_mem_take hx))
    (fun x hx => C13.actProg_names ip₂ s t₂ a₂ x (List.mem_of_mem_take hx)) hij⟩

/-- the disk only grows: every listed entry stays, unchanged (writers that store under new names) -/
def Grows (s s' : DirFS V) : Prop := ∀ n d, get? s (.key n) = some d → get? s' (.key n) = some d

/-- every listed entry loads, and has an input file exactly when its key needs one -/
def Complete (needInp : String → Bool) (s : DirFS V) : Prop :=
  ∀ n d, get? s (.key n) = some d → d.value.isSome = true ∧ d.inp.isSome = needInp n

def KeyOK (s : DirFS V) (k : RKey) : Prop := k.real = true ∧ (get? s (.key k.name)).isSome = true

/-- what a reader holds at any moment is backed by the disk: names it still has to visit exist,
keys it has classified are real and exist, values it has read are the values on disk -/
def Good (s : DirFS V) : RPhase V → Prop
  | .start => True
  | .classify todo ks _ => (∀ n ∈ todo, (get? s (.key n)).isSome = true) ∧ (∀ k ∈ ks, KeyOK s k)
  | .readInput n todo ks _ => (∃ d, get? s (.key n) = some d ∧ d.inp.isSome = true) ∧
      (∀ m ∈ todo, (get? s (.key m)).isSome = true) ∧ (∀ k ∈ ks, KeyOK s k)
  | .values todo acc => (∀ k ∈ todo, KeyOK s k) ∧
      (∀ p ∈ acc, p.1.real = true ∧ (get? s (.key p.1.name)).bind DDir.value = some p.2)
  | .done .keyError => False
  | .done (.keys ks) => ∀ k ∈ ks, KeyOK s k
  | .done (.dict acc) => ∀ p ∈ acc, p.1.real = true ∧ (get? s (.key p.1.name)).bind DDir.value = some p.2
  | .done _ => True

theorem isSome_mono {s s' : DirFS V} (h : Grows s s') (n : String) (hn : (get? s (.key n)).isSome = true) :
    (get? s' (.key n)).isSome = true := by
  obtain ⟨d, hd⟩ := Option.isSome_iff_exists.mp hn
  rw [h n d hd]; rfl

theorem keyOK_mono {s s' : DirFS V} (h : Grows s s') (k : RKey) (hk : KeyOK s k) : KeyOK s' k :=
  ⟨hk.1, isSome_mono h _ hk.2⟩

theorem val_mono {s s' : DirFS V} (h : Grows s s') (n : String) (v : V)
    (hv : (get? s (.key n)).bind DDir.value = some v) : (get? s' (.key n)).bind DDir.value = some v := by
  obtain ⟨d, hd, hv⟩ := Option.bind_eq_some_iff.mp hv
  rw [h n d hd]; exact hv

theorem good_mono {s s' : DirFS V} (h : Grows s s') (ph : RPhase V) (hg : Good s ph) : Good s' ph := by
  cases ph with
  | start => trivial
  | classify todo ks vals => exact ⟨fun n hn => isSome_mono h n (hg.1 n hn), fun k hk => keyOK_mono h k (hg.2 k hk)⟩
  | readInput n todo ks vals =>
    obtain ⟨⟨d, hd, hi⟩, h2, h3⟩ := hg
    exact ⟨⟨d, h _ d hd, hi⟩, fun m hm => isSome_mono h m (h2 m hm), fun k hk => keyOK_mono h k (h3 k hk)⟩
  | values todo acc =>
    exact ⟨fun k hk => keyOK_mono h k (hg.1 k hk), fun p hp => ⟨(hg.2 p hp).1, val_mono h _ _ (hg.2 p hp).2⟩⟩
  | done r =>
    cases r with
    | keyError => exact hg
    | keys ks => exact fun k hk => keyOK_mono h k (hg k hk)
    | dict acc => exact fun p hp => ⟨(hg p hp).1, val_mono h _ _ (hg p hp).2⟩
    | _ => trivial

theorem good_advance (s : DirFS V) (ph : RPhase V) (hg : Good s ph) : Good s (advance ph) := by
  unfold advance
  split
  · split
    · exact List.forall_mem_nil _
    · exact ⟨hg.2, List.forall_mem_nil _⟩
  · exact hg.2
  · exact hg.2
  · exact hg

theorem mem_visNames (s : DirFS V) (n : String) : n ∈ visNames s ↔ (get? s (.key n)).isSome = true := by
  rw [get?_isSome_iff]
  simp only [visNames, keys, List.mem_filterMap, List.mem_map]
  refine exists_congr fun p => and_congr_right fun _ => ?_
  cases p.1 <;> simp

theorem inp_of_value {d : DDir V} (hv : d.value.isSome = true) (hi : d.inp.isSome = true) : d.inp = some (.full ()) := by
  unfold DDir.value at hv
  split at hv
  · next h => rw [h] at hi; cases hi
  · next h => exact h
  · cases hv

theorem forall_mem_snoc {α : Type} {P : α → Prop} {l : List α} {a : α} (h : ∀ x ∈ l, P x) (ha : P a) : ∀ x ∈ l ++ [a], P x :=
  List.forall_mem_append.mpr ⟨h, List.forall_mem_singleton.mpr ha⟩

theorem good_step (needInp : String → Bool) (order : List String) (s : DirFS V) (k : RKind)
    (hk : k = .keys ∨ k = .asdict) (hc : Complete needInp s) (ph : RPhase V) (hg : Good s ph) :
    Good s (rstep needInp order s k ph) := by
  cases ph with
  | start =>
    have hall : ∀ n ∈ order.filter (· ∈ visNames s) ++ (visNames s).filter (· ∉ order), (get? s (.key n)).isSome = true :=
      fun n hn => (mem_visNames s n).mp ((List.mem_append.mp hn).elim
        (fun h => of_decide_eq_true (List.mem_filter.mp h).2) fun h => (List.mem_filter.mp h).1)
    have := fun vals => good_advance s (.classify _ [] vals) ⟨hall, List.forall_mem_nil _⟩
    rcases hk with rfl | rfl
    · exact this false
    · exact this true
  | classify todo ks vals =>
    cases todo with
    | nil => exact hg
    | cons n todo =>
      obtain ⟨hn, htodo⟩ := List.forall_mem_cons.mp hg.1
      obtain ⟨d, hget⟩ := Option.isSome_iff_exists.mp hn
      unfold rstep; simp only [hget]
      cases hi : d.inp.isSome with
      | true => exact ⟨⟨d, hget, hi⟩, htodo, hg.2⟩
      | false =>
        refine good_advance _ _ ⟨htodo, forall_mem_snoc hg.2 ⟨?_, hn⟩⟩
        rw [← (hc n d hget).2, hi]; rfl
  | readInput n todo ks vals =>
    obtain ⟨⟨d, hd, hi⟩, h2, h3⟩ := hg
    unfold rstep; simp only [hd, inp_of_value (hc n d hd).1 hi]
    exact good_advance _ _ ⟨h2, forall_mem_snoc h3 ⟨rfl, by rw [hd]; rfl⟩⟩
  | values todo acc =>
    cases todo with
    | nil => exact hg
    | cons key todo =>
      obtain ⟨hkey, htodo⟩ := List.forall_mem_cons.mp hg.1
      obtain ⟨d, hget⟩ := Option.isSome_iff_exists.mp hkey.2
      obtain ⟨v, hval⟩ := Option.isSome_iff_exists.mp (hc _ d hget).1
      unfold rstep; simp only [hget, Option.bind_some, hval]
      exact good_advance _ _ ⟨htodo, forall_mem_snoc hg.2 ⟨hkey.1, by rw [hget]; exact hval⟩⟩
  | done r => exact hg

/-- the reader's helper calls, each against the disk as it is at that moment -/
def rrun (needInp : String → Bool) (order : List String) (k : RKind) : RPhase V → List (DirFS V) → RPhase V
  | ph, [] => ph
  | ph, s :: ss => rrun needInp order k (rstep needInp order s k ph) ss

def GrowingChain (needInp : String → Bool) : List (DirFS V) → Prop
  | [] => True
  | [s] => Complete needInp s
  | s :: s' :: ss => Complete needInp s ∧ Grows s s' ∧ GrowingChain needInp (s' :: ss)

theorem good_rrun (needInp : String → Bool) (order : List String) (k : RKind) (hk : k = .keys ∨ k = .asdict)
    (ss : List (DirFS V)) : ∀ (s0 : DirFS V) (ph : RPhase V), GrowingChain needInp (s0 :: ss) → Good s0 ph →
      Good (ss.getLastD s0) (rrun needInp order k ph (s0 :: ss)) := by
  induction ss with
  | nil => exact fun s0 ph hc hg => good_step needInp order s0 k hk hc ph hg
  | cons s1 ss ih =>
    intro s0 ph ⟨hc0, hgr, hrest⟩ hg
    rw [List.getLastD_cons]
    exact ih s1 _ hrest (good_mono hgr _ (good_step needInp order s0 k hk hc0 ph hg))

/-- **a listing reader against concurrent adders never fails and never reports anything that is not
on disk**: whatever the schedule — i.e. whichever growing sequence of disks its helper calls meet —
`keys()` / `items()` / `__asdict__()` / `cache.load()` do not raise, every key they report is a real
stored key (no directory-name phantom), and every value is the value stored under that key in the
disk of the reader's last step -/
theorem C14_listing_vs_adders (needInp : String → Bool) (order : List String) (k : RKind)
    (hk : k = .keys ∨ k = .asdict) (ss : List (DirFS V)) (s_last : DirFS V)
    (hch : GrowingChain needInp (ss ++ [s_last])) :
    Good s_last (rrun needInp order k .start (ss ++ [s_last])) := by
  cases ss with
  | nil => exact good_rrun needInp order k hk [] s_last .start hch trivial
  | cons s0 ss =>
    have := good_rrun needInp order k hk (ss ++ [s_last]) s0 .start hch trivial
    rwa [List.getLastD_concat] at this

/-- non-vacuity: `__asdict__()` started on `{a}` while a writer adds `b` between its calls runs to
completion and returns `{a ↦ 1}` (it listed before `b` appeared) -/
example : rrun (fun _ => false) ["a"] .asdict (.start : RPhase Nat)
    [[(.key "a", { out := some (.full 1), inp := none })],
     [(.key "a", { out := some (.full 1), inp := none }), (.key "b", { out := some (.full 2), inp := none })],
     [(.key "a", { out := some (.full 1), inp := none }), (.key "b", { out := some (.full 2), inp := none })]]
    = .done (.dict [({ name := "a", real := true }, 1)]) := by decide

theorem take_mem_fileCrashStates {C : Type} (p : List (FSys C)) (s : FileFS C) (k : Nat) :
    (p.take k).foldl fstep s ∈ fileCrashStates s p := by
  induction p generalizing s k with
  | nil => simp [fileCrashStates]
  | cons x xs ih =>
    cases k with
    | zero => exact List.mem_cons_self
    | succ k => exact List.mem_cons_of_mem _ (List.mem_append_right _ (ih (fstep s x) k))

/-- while one writer saves, the archive file reads at every moment as the complete old or the
complete new dict — a concurrent reader's single read (`__asdict__`, and every method built on it)
can return nothing else -/
theorem C14_file_reader {C : Type} (emptyD : C) (fs : FileFS C) (t : Nat) (memo : C) (k : Nat) :
    let prog := saveProg true t memo
    fileRecover emptyD ((prog.take k).foldl fstep fs) = fileRecover emptyD fs ∨
    fileRecover emptyD ((prog.take k).foldl fstep fs) = memo :=
  C13.C13_file_save emptyD fs t memo _ (take_mem_fileCrashStates _ fs k)

section Sql
variable {K W : Type} [DecidableEq K]
open Backend

/-- **two sqlite writers on different keys, any interleaving of their committed inserts**: the
table reads as if one had run after the other — no row is lost -/
theorem C14_sql_writers_disjoint (rows : List (K × W)) (l₁ l₂ l : List (K × W)) (hi : Interleave l₁ l₂ l)
    (hd : ∀ p ∈ l₁, ∀ q ∈ l₂, p.1 ≠ q.1) :
    sqlGet (rows ++ l) = View.putAll (View.putAll (sqlGet rows) l₁) l₂ := by
  rw [view_sql_append]
  exact foldl_interleave _ l₁ l₂ l hi (fun p hp q hq d => View.put_comm d p.1 q.1 p.2 q.2 (hd p hp q hq)) _

end Sql

def e1 (v : Nat) : DDir Nat := { out := some (.full v), inp := none }

/-- F19b: a lookup scheduled between the two renames of an overwrite raises `KeyError`, although
the key is stored before and after -/
theorem C14_overwrite_reader_gap :
    let s0 : DirFS Nat := [(.key "a", e1 1)]
    let w := actProg true false s0 10 (.store "a" false 2)
    ∃ sched, ((runDir (fun _ => false) { disk := s0, procs := [.writer w, .reader (.lookup "a") [] .start] } sched).procs[1]?).map
        (fun p => match p with | .reader _ _ (.done .keyError) => true | _ => false) = some true := by
  exact ⟨[0, 0, 0, 0, 1], by decide⟩

/-- F34: `__asdict__()` lists a key, a concurrent `pop` removes it, the lookup that follows raises -/
theorem C14_delete_listing_race :
    let s0 : DirFS Nat := [(.key "a", e1 1), (.key "b", e1 2)]
    let w := actProg true false s0 10 (.remove "a")
    ∃ sched, ((runDir (fun _ => false) { disk := s0, procs := [.writer w, .reader .asdict ["a", "b"] .start] } sched).procs[1]?).map
        (fun p => match p with | .reader _ _ (.done .keyError) => true | _ => false) = some true := by
  exact ⟨[1, 0, 1, 1, 1], by decide⟩

/-- F34b: the same race, other outcome: for a key that lives in an input file, `keys()` lists the
directory, the entry is removed before `_hasinput` looks into it, and the directory name is reported
as a key (`real = false`) — a key nobody stored -/
theorem C14_delete_listing_phantom :
    let s0 : DirFS Nat := [(.key "p_q", { out := some (.full 1), inp := some (.full ()) })]
    let w := actProg true false s0 10 (.remove "p_q")
    ∃ sched, ((runDir (fun _ => true) { disk := s0, procs := [.writer w, .reader .keys ["p_q"] .start] } sched).procs[1]?).map
        (fun p => match p with | .reader _ _ (.done (.keys [k])) => !k.real | _ => false) = some true := by
  exact ⟨[1, 0, 1], by decide⟩

/-- F20: `archives.file_archive(name, cached=False)` ends with `update({})`, a read-modify-write of
the whole file: an opener that read before a writer's rename and saves after it undoes the write -/
theorem C14_file_opener_loses_write :
    let old : List (Nat × Nat) := [(1, 10)]
    let st : FSysState (List (Nat × Nat)) := FSysState.mk { target := some (.full old), temps := [] }
      [FProc.mk (.write (fun m => m ++ [(2, 20)])) 0 .start none, FProc.mk (.write id) 1 .start none]
    ∃ sched, fileRecover [] (runFile [] st sched).disk = old := by
  exact ⟨[1, 0, 0, 0, 0, 1, 1, 1], by decide⟩

end Klepto.C14
