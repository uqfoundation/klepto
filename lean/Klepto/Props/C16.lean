import Klepto.Lemmas.Basic
/-!
# C16 — Exceptions pass through untouched; safe caches degrade to plain evaluation

The model encodes Python's handler structure explicitly: the evaluation of the user function
happens inside the `except KeyError:` handler, so an exception it raises is *not* caught by the
sibling bare `except:` of the safe variants — hence a single evaluation.  (`Out.raised e n`:
`n` is the number of evaluations of the user function.)
-/
namespace Klepto.C16
open AMap
variable {K V : Type} [DecidableEq K]

/-- the stored result for `k` is retrievable neither from memory nor from the attached archive -/
def NotRetrievable (s : St K V) (k : K) : Prop :=
  get? s.c.mem k = none ∧ get? (s.c.preload k).mem k = none

theorem notRetrievable_iff (s : St K V) (k : K) :
    NotRetrievable s k ↔ get? s.c.mem k = none ∧ ∀ a, s.c.arch = some a → get? a k = none := by
  unfold NotRetrievable
  rw [preload_get_self]
  unfold Cache.aget
  cases s.c.arch with
  | none => simp
  | some a => cases hk : get? a k <;> simp [hk]

/-- **The function raises ⇒ the call is a no-op.**  For all twelve wrappers: if the key is not
retrievable and the function raises `e`, the same `e` propagates after exactly one evaluation and
the state — memory, archive, parked archive, recency queue, reference/use counts, statistics — is
literally unchanged. -/
theorem C16_raise_is_noop (cfg : Cfg) (s : St K V) (ci : CallIn K V) (k : K) (e : Exc)
    (hk : ci.key = .ok k) (hn : NotRetrievable s k) (hf : ci.fn = .error e) :
    call cfg s ci = (s, .raised e 1) := by
  unfold call
  split
  · unfold callNo; simp only [hk, hn.2, hf]
  · unfold callCached; simp only [hk, hn.1, hn.2, hf]

/-- consequently every later operation behaves as if the call had not been made -/
theorem C16_raise_then_run (cfg : Cfg) (s : St K V) (ci : CallIn K V) (k : K) (e : Exc)
    (ops : List (Op K V))
    (hk : ci.key = .ok k) (hn : NotRetrievable s k) (hf : ci.fn = .error e) :
    run cfg s (.call ci :: ops) =
      ((run cfg s ops).1, .raised e 1 :: (run cfg s ops).2) := by
  simp only [run, step, C16_raise_is_noop cfg s ci k e hk hn hf]

/-- what a key failure is: rounding / `_keygen` / the keymap raised, or the key is unhashable -/
def KeyFails (ci : CallIn K V) (e : Exc) : Prop := ci.key = .genError e ∨ ci.key = .unhashable e

/-- **Safe caches degrade to plain evaluation**: on any key failure the function is evaluated
exactly once and its result returned (or its own exception propagated). -/
theorem C16_safe_keyfail (cfg : Cfg) (s : St K V) (ci : CallIn K V) (e : Exc)
    (hs : cfg.safe = true) (hk : KeyFails ci e) :
    (call cfg s ci).2 = match ci.fn with
      | .ok v => .ret v 1
      | .error e' => .raised e' 1 := by
  by_cases h : cfg.algo = .no ∧ ci.key = .unhashable e
  · unfold call callNo
    rw [if_pos h.1, h.2, hs]
    cases ci.fn <;> rfl
  · rw [call_keyFail cfg s ci e hk (hk.elim (fun g => Or.inr (Or.inl g)) fun u => Or.inl fun hno => h ⟨hno, u⟩)]
    unfold keyFail evalDirect
    rw [if_pos hs]
    cases ci.fn <;> rfl

/-- … nothing is stored and only a completed call is counted (as a miss).  (For `safe.no_cache`
with an unhashable key the code additionally falls through to its purge block — next theorem.) -/
theorem C16_safe_keyfail_state (cfg : Cfg) (s : St K V) (ci : CallIn K V) (e : Exc)
    (hs : cfg.safe = true) (hk : KeyFails ci e) (hno : cfg.algo ≠ .no ∨ ci.key = .genError e) :
    (call cfg s ci).1 = match ci.fn with
      | .ok _ => { s with miss := s.miss + 1 }
      | .error _ => s := by
  rw [call_keyFail cfg s ci e hk (hno.imp_right Or.inl)]
  unfold keyFail evalDirect
  rw [if_pos hs]
  cases ci.fn <;> rfl

/-- `safe.no_cache`, unhashable key: after the direct evaluation the decorator's usual purge runs
(`dump()` if archived, then `clear()`), exactly as after any other `no_cache` call -/
theorem C16_safe_no_unhashable (cfg : Cfg) (s : St K V) (ci : CallIn K V) (e : Exc)
    (hs : cfg.safe = true) (ha : cfg.algo = .no) (hk : ci.key = .unhashable e) :
    (call cfg s ci).1 = match ci.fn with
      | .ok _ => { s with c := (if s.c.archived then s.c.dumpAll else s.c).clearMem, miss := s.miss + 1 }
      | .error _ => s := by
  unfold call
  simp only [ha, if_true, callNo, hk, hs]
  cases ci.fn <;> rfl

/-- the standard wrappers propagate the key pipeline's own exception, evaluate nothing and
change nothing -/
theorem C16_std_keyfail (cfg : Cfg) (s : St K V) (ci : CallIn K V) (e : Exc)
    (hs : cfg.safe = false) (hk : KeyFails ci e) :
    call cfg s ci = (s, .raised e 0) := by
  rw [call_keyFail cfg s ci e hk (Or.inr (Or.inr hs))]
  unfold keyFail
  simp only [hs, Bool.false_eq_true, if_false]

def evalsOf : Out V → Nat
  | .ret _ n => n
  | .raised _ n => n
  | _ => 0

theorem finish_evals (cfg : Cfg) (s : St K V) (k : K) (v : V) (n : Nat) (vi : Option K) :
    evalsOf (finish cfg s k v n vi).2 = n := by
  rcases finish_out cfg s k v n vi with h | h <;> rw [h] <;> rfl

theorem evalsOf_call (cfg : Cfg) (s : St K V) (ci : CallIn K V) :
    evalsOf (call cfg s ci).2 = match ci.key with
      | .ok k => if (get? (s.c.preload k).mem k).isSome then 0 else 1
      | _ => if cfg.safe then (1 : Nat) else 0 := by
  have hkf : ∀ e, evalsOf (keyFail cfg s ci.fn e).2 = if cfg.safe then 1 else 0 := fun e => by
    unfold keyFail
    cases cfg.safe <;> cases ci.fn <;> rfl
  unfold call
  split
  · refine callNo_cases (motive := fun r => evalsOf r.2 = _) cfg s ci (fun e hk => by simp [hk, hkf])
      ?_ ?_ ?_ ?_ ?_ ?_ <;> intros <;> simp [*, evalsOf]
  · refine callCached_cases (motive := fun r => evalsOf r.2 = _) cfg s ci ?_ ?_ ?_ ?_ ?_
    · rintro e (hk | hk) <;> simp [hk, hkf]
    · intro k v hk hm; simp only [hk, hitStep, evalsOf, preload_get_self, hm]; cases s.c.aget k <;> rfl
    · intro k v hk hm ha; simp [hk, loadStep, finish_evals, preload_get_self, ha]
    · intro k e hk hm ha _; simp [hk, evalsOf, preload_get_self, ha, hm]
    · intro k v hk hm ha _; simp [hk, missStep, finish_evals, preload_get_self, ha, hm]

/-- a call never evaluates the function more than once -/
theorem C16_single_evaluation (cfg : Cfg) (s : St K V) (ci : CallIn K V) :
    evalsOf (call cfg s ci).2 ≤ 1 := by
  rw [evalsOf_call]
  cases ci.key <;> dsimp only <;> split <;> omega

section Examples
def lruS : Cfg := { algo := .lru, safe := true, maxsize := 2, purge := false }
def c0 : Cache Nat Nat := { mem := [(1, 10)], arch := some [(2, 20)], swap := none }
/-- a reachable-looking state and a raising call with a key that is neither resident nor archived -/
example : NotRetrievable (St.init c0) 3 := by unfold NotRetrievable; decide
example : call lruS (St.init c0) { key := .ok 3, fn := .error (.user 3), victim := none }
    = (St.init c0, .raised (.user 3) 1) := by decide
/-- a user function raising `KeyError` (which collides with the wrappers' own control flow) -/
example : call lruS (St.init c0) { key := .ok 3, fn := .error .keyError, victim := none }
    = (St.init c0, .raised .keyError 1) := by decide
example : (call lruS (St.init c0) { key := .unhashable .typeError, fn := .ok 7, victim := none }).2
    = .ret 7 1 := by decide
end Examples

end Klepto.C16
