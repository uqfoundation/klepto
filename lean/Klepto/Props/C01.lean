import Klepto.Lemmas.CallRel
import Klepto.Props.C16
/-!
# C01 — Memoization transparency: a cached call returns what the function returns

`F : K → Except Exc V` is the deterministic function seen through the key map: well defined
exactly when the keymap is information-preserving (`C01_key_function` in `Props/C01Bridge.lean`, from
C10).  `Consistent F c`: every value stored anywhere (memory, attached archive, parked archive)
is what `F` returns for its key.  The theorem: every call keeps `Consistent`, and under it every call
returns `F k` — from memory, from the archive, or computed.
-/
namespace Klepto.C01
open AMap
variable {K V : Type} [DecidableEq K]

/-- lookup in the parked (`archived(False)`) archive -/
def sget (c : Cache K V) (j : K) : Option V :=
  match c.swap with
  | some a => get? a j
  | none => none

def ConsistentMap (F : K → Except Exc V) (m : List (K × V)) : Prop := ∀ j v, get? m j = some v → F j = .ok v

structure Consistent (F : K → Except Exc V) (c : Cache K V) : Prop where
  mem : ConsistentMap F c.mem
  arch : ∀ j v, c.aget j = some v → F j = .ok v
  swap : ∀ j v, sget c j = some v → F j = .ok v

/-- operations of a session of the same deterministic function: calls evaluate `F`; external
archive writes and replacement archives hold `F`-values only (another session of the same function) -/
def Admissible (F : K → Except Exc V) : Op K V → Prop
  | .call ci => ∀ k, ci.key = .ok k → ci.fn = F k
  | .extPut k v => F k = .ok v
  | .setArchive (some a) => ConsistentMap F a
  | _ => True

def expected (r : Except Exc V) (o : Out V) : Prop :=
  match r with
  | .ok v => ∃ n, o = .ret v n
  | .error e => ∃ n, o = .raised e n

theorem consistent_put {F : K → Except Exc V} {m : List (K × V)} (h : ConsistentMap F m) (k : K) (v : V)
    (hv : F k = .ok v) : ConsistentMap F (put m k v) := by
  intro j w hj
  rw [get?_put] at hj
  by_cases hjk : j = k
  · subst hjk; simp at hj; subst hj; exact hv
  · simp only [hjk, if_false] at hj; exact h j w hj

theorem consistent_update {F : K → Except Exc V} {m o : List (K × V)} (h : ConsistentMap F m)
    (ho : ∀ p ∈ o, F p.1 = .ok p.2) : ConsistentMap F (update m o) := by
  unfold update
  induction o generalizing m with
  | nil => exact h
  | cons p o ih =>
    simp only [List.foldl_cons]
    exact ih (consistent_put h p.1 p.2 (ho p (by simp))) (fun q hq => ho q (by simp [hq]))

theorem mem_of_get? (m : List (K × V)) : ∀ p ∈ m, ∃ w, get? m p.1 = some w := by
  intro p hp
  exact (has_eq_true_iff m p.1).mp ((has_iff_mem_keys m p.1).mpr (List.mem_map_of_mem hp))

theorem get?_of_mem_nodup (m : List (K × V)) (h : (keys m).Nodup) : ∀ p ∈ m, get? m p.1 = some p.2 :=
  fun p hp => (mem_iff_get? m h p.1 p.2).mp hp

theorem consistent_ins {F : K → Except Exc V} {c c2 : Cache K V} {k : K} {v : V}
    (h : Consistent F c) (hins : Ins c c2 k v) (hv : F k = .ok v) : Consistent F c2 :=
  ⟨by rw [hins.mem]; exact consistent_put h.mem k v hv,
   fun j w hj => h.arch j w (by rw [← hins.aget]; exact hj),
   fun j w hj => h.swap j w (by simpa [sget, hins.swap] using hj)⟩

theorem consistent_move {F : K → Except Exc V} {c c' : Cache K V} (h : Consistent F c) (hm : MoveRel c c') :
    Consistent F c' := by
  refine ⟨fun j w hj => ?_, fun j w hj => ?_, fun j w hj => h.swap j w (by simpa [sget, hm.swap] using hj)⟩
  · rcases hm.mem j with h1 | h1
    · rw [h1] at hj; exact h.mem j w hj
    · rw [h1] at hj; cases hj
  · rcases hm.arch j with h1 | ⟨_, h1⟩
    · rw [h1] at hj; exact h.arch j w hj
    · rw [h1] at hj; exact h.mem j w hj

/-- **C01, one call (caching decorators).**  In a consistent state, a call whose key was produced
returns exactly what the function returns for those arguments — value or exception — whether it is
answered from memory, loaded from the archive, or computed; the state stays consistent.
The only excluded outcome is `mru`'s `IndexError` (F2). -/
theorem C01_call (F : K → Except Exc V) (cfg : Cfg) (s : St K V) (ci : CallIn K V) (k : K)
    (hn : (keys s.c.mem).Nodup) (hc : Consistent F s.c) (hk : ci.key = .ok k) (hf : ci.fn = F k)
    (hne : (callCached cfg s ci).2.isIndexError = false) :
    expected (F k) (callCached cfg s ci).2 ∧ Consistent F (callCached cfg s ci).1.c := by
  constructor
  · have tail : ∀ s2 v n, F k = .ok v → (finish cfg s2 k v n ci.victim).2.isIndexError = false →
        expected (F k) (finish cfg s2 k v n ci.victim).2 := fun s2 v n hv hne => by
      rw [hv]
      rcases finish_out cfg s2 k v n ci.victim with h | h
      · exact ⟨n, h⟩
      · rw [h] at hne; cases hne
    refine callCached_cases (motive := fun r => r.2.isIndexError = false → expected (F k) r.2) cfg s ci
      ?_ ?_ ?_ ?_ ?_ hne
    · rintro e (h | h) <;> rw [hk] at h <;> cases h
    · intro k' v hk' hm _; rw [hk] at hk'; cases hk'; rw [hc.mem k v hm]; exact ⟨0, rfl⟩
    · intro k' v hk' _ ha; rw [hk] at hk'; cases hk'; exact tail _ v 0 (hc.arch k v ha)
    · intro k' e hk' _ _ he _; rw [hk] at hk'; cases hk'; rw [← hf, he]; exact ⟨1, rfl⟩
    · intro k' v hk' _ _ hv; rw [hk] at hk'; cases hk'; exact tail _ v 1 (by rw [← hf, hv])
  · obtain ⟨c2, hc2, hmv, _⟩ := callCached_rel cfg s ci hn
    rcases hc2 with ⟨rfl, _, _⟩ | ⟨k', v, hk', hins, _, hsrc⟩
    · exact consistent_move hc hmv
    · rw [hk] at hk'; cases hk'
      refine consistent_move (consistent_ins hc hins ?_) hmv
      rcases hsrc with h | h
      · exact hc.arch k v h
      · rw [← hf, h]

theorem consistent_load {F : K → Except Exc V} {c c' : Cache K V} (h : Consistent F c) (hl : LoadRel c c') :
    Consistent F c' := by
  refine ⟨fun j w hj => ?_, fun j w hj => h.arch j w (by rw [← aget_congr hl.arch]; exact hj),
    fun j w hj => h.swap j w (by simpa [sget, hl.swap] using hj)⟩
  rcases hl.mem j with h1 | ⟨_, h1⟩ <;> rw [h1] at hj
  · exact h.mem j w hj
  · exact h.arch j w hj

theorem consistent_clearMem {F : K → Except Exc V} {c : Cache K V} (h : Consistent F c) : Consistent F c.clearMem :=
  ⟨fun j v hj => by simp [get?] at hj, h.arch, h.swap⟩

/-- **`no_cache`**: same statement -/
theorem C01_call_no (F : K → Except Exc V) (cfg : Cfg) (s : St K V) (ci : CallIn K V) (k : K)
    (hn : (keys s.c.mem).Nodup) (hc : Consistent F s.c) (hk : ci.key = .ok k) (hf : ci.fn = F k) :
    expected (F k) (callNo cfg s ci).2 ∧ Consistent F (callNo cfg s ci).1.c := by
  have hp := consistent_load hc (loadRel_preload s.c k)
  unfold callNo
  rw [hk, hf]
  dsimp only
  cases hl : get? (s.c.preload k).mem k with
  | some v => exact ⟨by rw [hp.mem k v hl]; exact ⟨0, rfl⟩, consistent_clearMem hp⟩
  | none =>
    cases hFk : F k with
    | error e => exact ⟨⟨1, rfl⟩, hc⟩
    | ok v =>
      refine ⟨⟨1, rfl⟩, consistent_clearMem ?_⟩
      -- the computed entry is stored, then `dump()` copies memory to the archive
      have h2 : Consistent F ({ s.c.preload k with mem := put (s.c.preload k).mem k v } : Cache K V) :=
        ⟨consistent_put hp.mem k v hFk, hp.arch, hp.swap⟩
      split
      · exact consistent_move h2 (moveRel_dumpAll _ (nodup_keys_put _ _ _ ((loadRel_preload s.c k).nodup hn)))
      · exact h2

/-- safe decorators on a key failure return the function's own outcome -/
theorem C01_safe_keyfail (cfg : Cfg) (s : St K V) (ci : CallIn K V) (e : Exc)
    (hs : cfg.safe = true) (hk : ci.key = .genError e ∨ ci.key = .unhashable e) :
    expected ci.fn (call cfg s ci).2 := by
  rw [C16.C16_safe_keyfail cfg s ci e hs hk]
  cases ci.fn <;> exact ⟨1, rfl⟩

section Examples
def F0 : Nat → Except Exc Nat := fun k => if k = 5 then .error (.user 5) else .ok (10 * k)
def lru2 : Cfg := { algo := .lru, safe := false, maxsize := 2, purge := false }
def mk (k : Nat) : Op Nat Nat := .call { key := .ok k, fn := F0 k, victim := none }
def c0 : Cache Nat Nat := { mem := [], arch := some [], swap := none }
/-- evict → reload: every call returns `F0 k`, also the reload of the evicted key 1 -/
example : (run lru2 (St.init c0) [mk 1, mk 2, mk 3, mk 1, mk 5, mk 2]).2 =
    [.ret 10 1, .ret 20 1, .ret 30 1, .ret 10 0, .raised (.user 5) 1, .ret 20 0] := by decide
end Examples

end Klepto.C01
