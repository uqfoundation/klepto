import Klepto.Props.C09Tol
import Klepto.Props.C01Bridge
/-!
# C12 end to end: "calls whose arguments round to the same values share an entry, calls that round differently do not"

`C12_merge_iff` is stated for an abstract injective key function.  Here the key function is the real
pipeline `keymap(*_keygen(f, (), *rounded_args(*args, **kwds)))` (`keyOf ∘ roundCall g`), `g` being
the rounding of one value (`round(x, tol)` on floats, identity elsewhere).
-/
namespace Klepto.C12
open Klepto.AMap Klepto.Keys Klepto.C01 Klepto.C09

variable {Val : Type} [DecidableEq Val]

/-- the rounded calls bind the same values ⇒ one entry (C09 on the rounded calls) -/
theorem C12_round_same_share (g : Val → Val) (k : Consts Val) (self : Val) (f : Func Val)
    (km : KM Val) (le : Val → Val → Bool) (tyOf : Val → Val) (fast : Val → Bool)
    (hpl : Plain f) (hwf : (names f.pos ++ names f.kwonly).Nodup) (hle : TotalOrder le)
    (c₁ c₂ : PCall Val) (b : Binding Val)
    (h₁ : ValidCall self f (roundCall g c₁) b) (h₂ : ValidCall self f (roundCall g c₂) b) :
    keyOf k f km le tyOf fast (roundCall g c₁) = keyOf k f km le tyOf fast (roundCall g c₂) :=
  C09.C09_flat k self f _ _ b km le tyOf fast hpl hwf hle h₁.2 h₂.2 h₁.1 h₂.1

/-- the rounded calls bind different values to some parameter ⇒ different entries (C10 on the rounded calls) -/
theorem C12_round_differently_apart (g : Val → Val) (k : Consts Val) (self : Val) (f : Func Val)
    (km : KM Val) (le : Val → Val → Bool) (tyOf : Val → Val) (fast : Val → Bool)
    (hpl : Plain f) (hwf : (names f.pos ++ names f.kwonly).Nodup) (hva : f.varargs = false)
    (c₁ c₂ : PCall Val) (b₁ b₂ : Binding Val)
    (h₁ : ValidCall self f (roundCall g c₁) b₁) (h₂ : ValidCall self f (roundCall g c₂) b₂)
    (n : Val) (hne : get? (b₁.named ++ b₁.extraKw) n ≠ get? (b₂.named ++ b₂.extraKw) n) :
    keyOf k f km le tyOf fast (roundCall g c₁) ≠ keyOf k f km le tyOf fast (roundCall g c₂) :=
  C10.C10_calls k self f _ _ b₁ b₂ km le tyOf fast hpl hwf hva h₁.2 h₂.2 h₁.1 h₂.1 n hne

/-- in terms of the ORIGINAL calls: if rounding fixes the defaults, two calls whose bindings become equal
under rounding share an entry -/
theorem C12_round_to_same_values_share (g : Val → Val) (k : Consts Val) (self : Val) (f : Func Val)
    (km : KM Val) (le : Val → Val → Bool) (tyOf : Val → Val) (fast : Val → Bool)
    (hpl : Plain f) (hwf : (names f.pos ++ names f.kwonly).Nodup) (hle : TotalOrder le)
    (hfp : FixesDefaults g f.pos) (hfk : FixesDefaults g f.kwonly)
    (c₁ c₂ : PCall Val) (b₁ b₂ : Binding Val) (h₁ : ValidCall self f c₁ b₁) (h₂ : ValidCall self f c₂ b₂)
    (hround : mapBinding g b₁ = mapBinding g b₂) :
    keyOf k f km le tyOf fast (roundCall g c₁) = keyOf k f km le tyOf fast (roundCall g c₂) :=
  flat_of_mapBinding_eq g k self f c₁ c₂ b₁ b₂ km le tyOf fast hpl hwf hle h₁.2 h₂.2 hfp hfk h₁.1 h₂.1 hround

end Klepto.C12
