import Klepto.Model.Wrapper
/-!
# F47 in the model: what one decorator object applied to two functions breaks

The theorems of C01 and C05 have two hypotheses that a single cache per decorated function makes
true: every resident entry holds the value of THE function for its key (`Consistent F`, C01), and the
wrapper's bookkeeping covers what is resident (`WF`, C05).  `memo = lru_cache(maxsize=…); f = memo(f0);
g = memo(g0)` gives `g`'s wrapper a state whose memory is the memory `f` filled while its queue,
reference counts and use counts are its own, empty ones.  The witnesses below are that state: they are
the reason the finding is listed and not a counterexample to any theorem - the hypotheses fail first.
-/
namespace Klepto.C01

def lru3 : Cfg := { algo := .lru, safe := false, maxsize := 3, purge := false }
/-- `f(1)` (the function `f0` returns 10) has been called; this is the memory `g`'s wrapper sees -/
def afterF : St Nat Nat := (call lru3 (St.init Cache.empty) { key := .ok 1, fn := .ok 10, victim := none }).1

/-- `g(1)` - the function `g0` would return 20 - is answered from the shared memory with `f0`'s 10, no
evaluation: the call does not return its own function's value -/
theorem C01_reused_decorator_witness :
    (call lru3 { afterF with queue := [], rc := [] } { key := .ok 1, fn := .ok 20, victim := none }).2 = .ret 10 0 := by decide

end Klepto.C01

namespace Klepto.C05

def mru2 : Cfg := { algo := .mru, safe := false, maxsize := 2, purge := false }
/-- the memory holds two entries of the other function; this wrapper's own queue is empty -/
def sharedFull : St Nat Nat := { (St.init { mem := [(1, 10), (2, 20)], arch := none, swap := none }) with queue := [] }

/-- `lru` evicts by its own queue, which knows only its own key: the entry just computed is the victim
and the other function's entries stay - this function is never served from memory -/
theorem C05_reused_decorator_evicts_own_entry :
    (call { mru2 with algo := .lru } sharedFull { key := .ok 3, fn := .ok 30, victim := none }).1.c.mem = [(1, 10), (2, 20)] := by decide

/-- `mru` pops its empty queue: the overflowing call raises `IndexError` -/
theorem C05_reused_decorator_indexerror :
    (call mru2 sharedFull { key := .ok 3, fn := .ok 30, victim := none }).2 = .raised .indexError 1 := by decide

end Klepto.C05
