import Klepto.Lemmas.Basic
import Klepto.Lemmas.MapKV
/-!
The wrapper, the cache and the dict model use keys only through `=`.  Hence a state whose keys were all renamed by an
injective `φ : K → K'` (and whose values were mapped by any `ψ : V → V'`) behaves, on renamed operations, exactly like the
original — step by step, output by output (`run_rename`).

This is what a serialisation round trip does to a state: every key and value is rebuilt as a new object (a new
identity), equal objects are rebuilt equal and distinct ones distinct.
-/
namespace Klepto
open AMap
set_option linter.unusedSectionVars false
variable {K K' V V' : Type} [DecidableEq K] [DecidableEq K'] {φ : K → K'} {ψ : V → V'}

def Cache.rename (φ : K → K') (ψ : V → V') (c : Cache K V) : Cache K' V' :=
  { mem := mapKV φ ψ c.mem, arch := c.arch.map (mapKV φ ψ), swap := c.swap.map (mapKV φ ψ), bare := c.bare }

namespace Cache

@[eqv] theorem rename_mem (c : Cache K V) : (c.rename φ ψ).mem = mapKV φ ψ c.mem := rfl
@[eqv] theorem rename_arch (c : Cache K V) : (c.rename φ ψ).arch = c.arch.map (mapKV φ ψ) := rfl
@[eqv] theorem rename_swap (c : Cache K V) : (c.rename φ ψ).swap = c.swap.map (mapKV φ ψ) := rfl
@[eqv] theorem rename_bare (c : Cache K V) : (c.rename φ ψ).bare = c.bare := rfl
@[eqv] theorem rename_mk (m : List (K × V)) (a sw : Option (List (K × V))) (b : Bool) :
    (⟨mapKV φ ψ m, a.map (mapKV φ ψ), sw.map (mapKV φ ψ), b⟩ : Cache K' V') = rename φ ψ ⟨m, a, sw, b⟩ := rfl

@[eqv] theorem rename_ite (p : Prop) [Decidable p] (x y : Cache K V) :
    (if p then x.rename φ ψ else y.rename φ ψ) = (if p then x else y).rename φ ψ := (apply_ite _ _ _ _).symm

@[eqv] theorem rename_archived (c : Cache K V) : (c.rename φ ψ).archived = c.archived := Option.isSome_map

@[eqv] theorem rename_load1 (hφ : Inj φ) (c : Cache K V) (k : K) :
    (c.rename φ ψ).load1 (φ k) = (c.load1 k).rename φ ψ := by
  obtain ⟨m, _ | a, sw, b⟩ := c
  · rfl
  · simp only [load1, rename, Option.map_some, get?_mapKV hφ]
    cases get? a k <;> simp only [Option.map, put_mapKV hφ]

@[eqv] theorem rename_dump1 (hφ : Inj φ) (c : Cache K V) (k : K) :
    (c.rename φ ψ).dump1 (φ k) = (c.dump1 k).rename φ ψ := by
  obtain ⟨m, _ | a, sw, b⟩ := c
  · rfl
  · -- dsimp: `simp only [dump1]` tries the equations of the two-column `match` and fails on their side conditions
    dsimp only [dump1, rename, Option.map_some]
    rw [get?_mapKV hφ]
    cases get? m k <;> simp only [Option.map, put_mapKV hφ]

@[eqv] theorem rename_dumpAll (hφ : Inj φ) (c : Cache K V) :
    (c.rename φ ψ).dumpAll = c.dumpAll.rename φ ψ := by
  obtain ⟨m, _ | a, sw, b⟩ := c <;> simp only [dumpAll, rename, Option.map, update_mapKV hφ]

@[eqv] theorem rename_loadAll (hφ : Inj φ) (c : Cache K V) :
    (c.rename φ ψ).loadAll = c.loadAll.rename φ ψ := by
  obtain ⟨m, _ | a, sw, b⟩ := c <;> simp only [loadAll, rename, Option.map, update_mapKV hφ]

@[eqv] theorem rename_loadKeys (hφ : Inj φ) (c : Cache K V) (ks : List K) :
    (c.rename φ ψ).loadKeys (ks.map φ) = (c.loadKeys ks).rename φ ψ :=
  foldl_map_hom φ (rename φ ψ) (rename_load1 hφ) ks c

@[eqv] theorem rename_dumpKeys (hφ : Inj φ) (c : Cache K V) (ks : List K) :
    (c.rename φ ψ).dumpKeys (ks.map φ) = (c.dumpKeys ks).rename φ ψ :=
  foldl_map_hom φ (rename φ ψ) (rename_dump1 hφ) ks c

@[eqv] theorem rename_delMem (hφ : Inj φ) (c : Cache K V) (k : K) :
    (c.rename φ ψ).delMem (φ k) = (c.delMem k).rename φ ψ := by
  simp only [delMem, rename, erase_mapKV hφ]

@[eqv] theorem rename_clearMem (c : Cache K V) : (c.rename φ ψ).clearMem = c.clearMem.rename φ ψ := rfl

@[eqv] theorem rename_setArchive (c : Cache K V) (a : Option (List (K × V))) :
    (c.rename φ ψ).setArchive (a.map (mapKV φ ψ)) = (c.setArchive a).rename φ ψ := by
  obtain ⟨m, a', _ | sw, b⟩ := c <;> rfl

@[eqv] theorem rename_swapDance (c : Cache K V) : (c.rename φ ψ).swapDance = c.swapDance.rename φ ψ :=
  rename_setArchive { c with swap := c.arch } c.swap

@[eqv] theorem rename_archivedOn (c : Cache K V) :
    (c.rename φ ψ).archivedOn = c.archivedOn.map (rename φ ψ) := by
  obtain ⟨m, _ | a, _ | sw, _ | _⟩ := c <;> rfl

@[eqv] theorem rename_archivedOff (c : Cache K V) :
    (c.rename φ ψ).archivedOff = c.archivedOff.map (rename φ ψ) := by
  obtain ⟨m, _ | a, _ | sw, _ | _⟩ := c <;> rfl

@[eqv] theorem rename_extPut (hφ : Inj φ) (c : Cache K V) (k : K) (v : V) :
    (c.rename φ ψ).extPut (φ k) (ψ v) = (c.extPut k v).rename φ ψ := by
  obtain ⟨m, _ | a, sw, b⟩ := c <;> simp only [extPut, rename, Option.map, put_mapKV hφ]

@[eqv] theorem rename_extDel (hφ : Inj φ) (c : Cache K V) (k : K) :
    (c.rename φ ψ).extDel (φ k) = (c.extDel k).rename φ ψ := by
  obtain ⟨m, _ | a, sw, b⟩ := c <;> simp only [extDel, rename, Option.map, erase_mapKV hφ]

end Cache

def St.rename (φ : K → K') (ψ : V → V') (s : St K V) : St K' V' :=
  { c := s.c.rename φ ψ, queue := s.queue.map φ, rc := mapKV φ id s.rc, uc := mapKV φ id s.uc,
    hit := s.hit, miss := s.miss, load := s.load }

def KeyIn.rename (φ : K → K') : KeyIn K → KeyIn K'
  | .ok k => .ok (φ k)
  | .genError e => .genError e
  | .unhashable e => .unhashable e

def exMap (ψ : V → V') : Except Exc V → Except Exc V'
  | .ok v => .ok (ψ v)
  | .error e => .error e

def CallIn.rename (φ : K → K') (ψ : V → V') (ci : CallIn K V) : CallIn K' V' :=
  { key := ci.key.rename φ, fn := exMap ψ ci.fn, victim := ci.victim.map φ }

def Out.rename (ψ : V → V') : Out V → Out V'
  | .ret v n => .ret (ψ v) n
  | .raised e n => .raised e n
  | .unit => .unit
  | .info h m l ms sz => .info h m l ms sz
  | .flag b => .flag b

def Op.rename (φ : K → K') (ψ : V → V') : Op K V → Op K' V'
  | .call ci => .call (ci.rename φ ψ)
  | .lookup key => .lookup (key.rename φ)
  | .clear keep => .clear keep
  | .load ks => .load (ks.map φ)
  | .loadAll => .loadAll
  | .dump ks => .dump (ks.map φ)
  | .dumpAll => .dumpAll
  | .archivedOn => .archivedOn
  | .archivedOff => .archivedOff
  | .archivedQ => .archivedQ
  | .setArchive a => .setArchive (a.map (mapKV φ ψ))
  | .extPut k v => .extPut (φ k) (ψ v)
  | .extDel k => .extDel (φ k)
  | .info => .info

abbrev renP (φ : K → K') (ψ : V → V') : St K V × Out V → St K' V' × Out V' := Prod.map (St.rename φ ψ) (Out.rename ψ)

@[eqv] theorem St.rename_c (s : St K V) : (s.rename φ ψ).c = s.c.rename φ ψ := rfl
@[eqv] theorem St.rename_queue (s : St K V) : (s.rename φ ψ).queue = s.queue.map φ := rfl
@[eqv] theorem St.rename_rc (s : St K V) : (s.rename φ ψ).rc = mapKV φ id s.rc := rfl
@[eqv] theorem St.rename_uc (s : St K V) : (s.rename φ ψ).uc = mapKV φ id s.uc := rfl
@[eqv] theorem St.rename_hit (s : St K V) : (s.rename φ ψ).hit = s.hit := rfl
@[eqv] theorem St.rename_miss (s : St K V) : (s.rename φ ψ).miss = s.miss := rfl
@[eqv] theorem St.rename_load (s : St K V) : (s.rename φ ψ).load = s.load := rfl
@[eqv] theorem St.rename_mk (c : Cache K V) (q : List K) (rc : List (K × Int)) (uc : List (K × Nat)) (h m l : Nat) :
    (⟨c.rename φ ψ, q.map φ, mapKV φ id rc, mapKV φ id uc, h, m, l⟩ : St K' V') = St.rename φ ψ ⟨c, q, rc, uc, h, m, l⟩ := rfl

@[eqv] theorem St.rename_ite (p : Prop) [Decidable p] (x y : St K V) :
    (if p then x.rename φ ψ else y.rename φ ψ) = (if p then x else y).rename φ ψ := (apply_ite _ _ _ _).symm

@[eqv] theorem cget_rename (hφ : Inj φ) (m : List (K × Int)) (k : K) : cget (mapKV φ id m) (φ k) = cget m k := by
  simp [cget, get?_mapKV hφ]

@[eqv] theorem ucget_rename (hφ : Inj φ) (m : List (K × Nat)) (k : K) : ucget (mapKV φ id m) (φ k) = ucget m k := by
  simp [ucget, get?_mapKV hφ]

@[eqv] theorem lruLoop_rename (hφ : Inj φ) (q : List K) (rc : List (K × Int)) :
    lruLoop (q.map φ) (mapKV φ id rc) =
      (lruLoop q rc).map (fun r => (φ r.1, r.2.1.map φ, mapKV φ id r.2.2)) := by
  induction q generalizing rc with
  | nil => rfl
  | cons k q ih =>
    simp only [List.map_cons, lruLoop, cget_rename hφ, put_mapKV_id hφ, ih]
    split <;> rfl

@[eqv] theorem compactQ_rename (hφ : Inj φ) (q : List K) : compactQ (q.map φ) = (compactQ q).map φ := by
  unfold compactQ
  rw [← List.map_reverse]
  exact foldl_map_hom φ (List.map φ) (fun acc k => by simp only [mem_map_inj hφ]; split <;> rfl) _ []

@[eqv] theorem nsmallest_rename (n : Nat) (uc : List (K × Nat)) :
    nsmallest n (mapKV φ id uc) = mapKV φ id (nsmallest n uc) := by
  unfold nsmallest mapKV
  rw [List.map_take]
  congr 1
  exact (List.map_mergeSort (f := fun p : K × Nat => (φ p.1, id p.2)) (r := fun a b => decide (a.2 ≤ b.2))
    (s := fun a b => decide (a.2 ≤ b.2)) (fun a _ b _ => rfl)).symm

@[eqv] theorem useKey_rename (hφ : Inj φ) (cfg : Cfg) (s : St K V) (k : K) :
    useKey cfg (s.rename φ ψ) (φ k) = (useKey cfg s k).rename φ ψ := by
  unfold useKey
  cases cfg.algo <;> simp only [eqv, hφ]

@[eqv] theorem evictOne_rename (hφ : Inj φ) (s : St K V) (k : K) :
    evictOne (s.rename φ ψ) (φ k) = (evictOne s k).rename φ ψ := by
  simp only [evictOne, eqv, hφ]

@[eqv] theorem overflow_rename (hφ : Inj φ) (cfg : Cfg) (s : St K V) (victim : Option K) :
    overflow cfg (s.rename φ ψ) (victim.map φ) = (overflow cfg s victim).map (St.rename φ ψ) := by
  unfold overflow
  -- both sides become the same two tests, compared branch by branch (`split` on a goal of this size is slow)
  rw [St.rename_c, Cache.rename_mem, length_mapKV, Cache.rename_archived, apply_ite (Option.map _),
    apply_ite (Option.map _)]
  refine ite_congr rfl (fun _ => ite_congr rfl (fun _ => ?_) fun _ => ?_) fun _ => rfl
  · rw [Cache.rename_dumpAll hφ]; rfl
  · cases cfg.algo with
    | lfu =>
      dsimp only
      rw [St.rename_uc, nsmallest_rename]
      exact congrArg some (foldl_map_hom _ (St.rename φ ψ) (fun s p => by simp only [eqv, hφ]) _ s)
    | lru =>
      simp only [eqv, hφ]
      cases lruLoop s.queue s.rc with
      | none => rfl
      | some r => simp only [eqv, hφ, Option.map_some]
    | mru =>
      simp only [eqv]
      cases s.queue.getLast? with
      | none => rfl
      | some k => simp only [eqv, hφ, Option.map_some]
    | rr =>
      cases victim with
      | none => rfl
      | some k => exact congrArg some (evictOne_rename hφ s k)
    | _ => rfl

@[eqv] theorem post_rename (hφ : Inj φ) (cfg : Cfg) (s : St K V) (k : K) :
    post cfg (s.rename φ ψ) (φ k) = (post cfg s k).rename φ ψ := by
  unfold post
  cases cfg.algo <;> simp only [eqv, hφ]

@[eqv] theorem evalDirect_rename (s : St K V) (fn : Except Exc V) :
    evalDirect (s.rename φ ψ) (exMap ψ fn) = renP φ ψ (evalDirect s fn) := by
  cases fn <;> rfl

@[eqv] theorem preload_rename (hφ : Inj φ) (c : Cache K V) (k : K) :
    (c.rename φ ψ).preload (φ k) = (c.preload k).rename φ ψ := by
  rw [preload_eq_load1, preload_eq_load1, Cache.rename_load1 hφ]

@[eqv] theorem keyFail_rename (cfg : Cfg) (s : St K V) (fn : Except Exc V) (e : Exc) :
    keyFail cfg (s.rename φ ψ) (exMap ψ fn) e = renP φ ψ (keyFail cfg s fn e) := by
  unfold keyFail
  rw [evalDirect_rename]
  split <;> rfl

@[eqv] theorem hitStep_rename (hφ : Inj φ) (cfg : Cfg) (s : St K V) (k : K) (v : V) :
    hitStep cfg (s.rename φ ψ) (φ k) (ψ v) = renP φ ψ (hitStep cfg s k v) := by
  simp only [hitStep, eqv, hφ]; rfl

@[eqv] theorem finish_rename (hφ : Inj φ) (cfg : Cfg) (s : St K V) (k : K) (v : V) (n : Nat) (victim : Option K) :
    finish cfg (s.rename φ ψ) (φ k) (ψ v) n (victim.map φ) = renP φ ψ (finish cfg s k v n victim) := by
  unfold finish
  rw [overflow_rename hφ]
  split
  · rfl
  · cases overflow cfg s victim with
    | none => rfl
    | some s3 => exact congrArg (·, Out.ret (ψ v) n) (post_rename hφ cfg s3 k)

@[eqv] theorem loadStep_rename (hφ : Inj φ) (cfg : Cfg) (s : St K V) (k : K) (v : V) (victim : Option K) :
    loadStep cfg (s.rename φ ψ) (φ k) (ψ v) (victim.map φ) = renP φ ψ (loadStep cfg s k v victim) := by
  simp only [loadStep, eqv, hφ]

@[eqv] theorem missStep_rename (hφ : Inj φ) (cfg : Cfg) (s : St K V) (k : K) (v : V) (victim : Option K) :
    missStep cfg (s.rename φ ψ) (φ k) (ψ v) (victim.map φ) = renP φ ψ (missStep cfg s k v victim) := by
  simp only [missStep, eqv, hφ]

@[eqv] theorem callCached_rename (hφ : Inj φ) (cfg : Cfg) (s : St K V) (ci : CallIn K V) :
    callCached cfg (s.rename φ ψ) (ci.rename φ ψ) = renP φ ψ (callCached cfg s ci) := by
  unfold callCached CallIn.rename
  cases ci.key with
  | genError e | unhashable e => exact keyFail_rename ..
  | ok k =>
    simp only [KeyIn.rename, eqv, hφ]
    cases get? s.c.mem k with
    | some v => exact hitStep_rename hφ ..
    | none =>
      cases get? (s.c.preload k).mem k with
      | some v => exact loadStep_rename hφ ..
      | none =>
        cases ci.fn with
        | error e => rfl
        | ok v => exact missStep_rename hφ ..

@[eqv] theorem callNo_rename (hφ : Inj φ) (cfg : Cfg) (s : St K V) (ci : CallIn K V) :
    callNo cfg (s.rename φ ψ) (ci.rename φ ψ) = renP φ ψ (callNo cfg s ci) := by
  unfold callNo CallIn.rename
  cases ci.key with
  | genError e => exact keyFail_rename ..
  | unhashable e =>
    simp only [KeyIn.rename, eqv, hφ]
    cases cfg.safe <;> cases ci.fn <;> rfl
  | ok k =>
    simp only [KeyIn.rename, eqv, hφ]
    cases get? (s.c.preload k).mem k with
    | some v => rfl
    | none => cases ci.fn <;> simp only [Option.map_none, exMap, eqv, hφ] <;> rfl

@[eqv] theorem call_rename (hφ : Inj φ) (cfg : Cfg) (s : St K V) (ci : CallIn K V) :
    call cfg (s.rename φ ψ) (ci.rename φ ψ) = renP φ ψ (call cfg s ci) := by
  unfold call; rw [callNo_rename hφ, callCached_rename hφ]; split <;> rfl

@[eqv] theorem step_rename (hφ : Inj φ) (cfg : Cfg) (s : St K V) (op : Op K V) :
    step cfg (s.rename φ ψ) (op.rename φ ψ) = renP φ ψ (step cfg s op) := by
  cases op <;> dsimp only [step, Op.rename]
  case call ci => exact call_rename hφ cfg s ci
  case lookup key =>
    cases key with
    | ok k => simp only [KeyIn.rename, eqv, hφ]; cases get? s.c.mem k <;> rfl
    | _ => rfl
  case clear keep => cases keep <;> rfl
  case archivedOn => simp only [eqv]; cases s.c.archivedOn <;> rfl
  case archivedOff => simp only [eqv]; cases s.c.archivedOff <;> rfl
  case setArchive a => simp only [eqv]; split <;> rfl
  case info => simp only [infoOut, eqv]; rfl
  case archivedQ => simp only [eqv]; rfl
  case load | loadAll | dump | dumpAll | extPut | extDel => simp only [eqv, hφ]; rfl

/-- **equivariance of whole histories**: renamed state, renamed operations ⇒ renamed final state and
renamed outputs, one for one -/
theorem run_rename (hφ : Inj φ) (cfg : Cfg) (s : St K V) (ops : List (Op K V)) :
    run cfg (s.rename φ ψ) (ops.map (Op.rename φ ψ)) =
      ((run cfg s ops).1.rename φ ψ, (run cfg s ops).2.map (Out.rename ψ)) := by
  induction ops generalizing s with
  | nil => rfl
  | cons op ops ih => simp only [List.map_cons, run, step_rename hφ, renP, Prod.map_fst, Prod.map_snd, ih]

end Klepto
