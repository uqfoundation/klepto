import Klepto.Model.Backend
import Klepto.Lemmas.AMap
/-!
# The specification the archives are held to: a Python `dict`, stated on contents

`View K V := K → Option V` is "the contents" — extensional by construction, no order, no
representation.  `DictSpec d op out d'` says: *a dict holding contents `d` answers `op` with `out`
and then holds `d'`*.  Listings (`keys`/`values`/`items`) are any duplicate-free enumeration of the
contents, `len` is the length of one, `popitem` removes *some* present pair (a store that has no
insertion order fixes none), `popkeys` is klepto's all-or-nothing extension (`_archives.py:152-162`).
A failed operation (`KeyError`) leaves the contents unchanged.  `DictRun d tr d'` is the same for a
history `tr` of (operation, answer) pairs.
-/
namespace Klepto.Backend
open AMap

abbrev View (K V : Type) := K → Option V

variable {K V : Type}

def ItemsOf (d : View K V) (l : List (K × V)) : Prop :=
  (keys l).Nodup ∧ ∀ k v, (k, v) ∈ l ↔ d k = some v

theorem ItemsOf.of_mem_keys {d : View K V} {l : List (K × V)} (h : ItemsOf d l) {k : K} (hk : k ∈ keys l) :
    ∃ v, d k = some v := by
  obtain ⟨p, hp, rfl⟩ := List.mem_map.mp hk
  exact ⟨p.2, (h.2 p.1 p.2).mp hp⟩

theorem ItemsOf.none_of_nil {d : View K V} (h : ItemsOf d []) (k : K) : d k = none := by
  cases hd : d k with
  | none => rfl
  | some v => exact absurd ((h.2 k v).mpr hd) List.not_mem_nil

variable [DecidableEq K]

def View.put (d : View K V) (k : K) (v : V) : View K V := fun j => if j = k then some v else d j
def View.del (d : View K V) (k : K) : View K V := fun j => if j = k then none else d j
def View.empty : View K V := fun _ => none
def View.putAll (d : View K V) (kvs : List (K × V)) : View K V := kvs.foldl (fun d p => d.put p.1 p.2) d

/-- `[d.pop(k, x) for k in ks]` on contents -/
def View.popSeq (x : V) : View K V → List K → View K V × List V
  | d, [] => (d, [])
  | d, k :: ks =>
    let r := View.popSeq x (d.del k) ks
    (r.1, (d k).getD x :: r.2)

/-- `[d.pop(k) for k in ks]`: `none` as soon as a key is missing (a repeated key is missing the
second time) -/
def View.popAll : View K V → List K → Option (View K V × List V)
  | d, [] => some (d, [])
  | d, k :: ks =>
    match d k with
    | none => none
    | some v => (View.popAll (d.del k) ks).map fun r => (r.1, v :: r.2)

inductive DictSpec : View K V → Op K V → Out K V → View K V → Prop
  | setitem (d k v) : DictSpec d (.setitem k v) .unit (d.put k v)
  | getitem_hit (d k v) : d k = some v → DictSpec d (.getitem k) (.val v) d
  | getitem_miss (d k) : d k = none → DictSpec d (.getitem k) (.err .keyError) d
  | delitem_hit (d k v) : d k = some v → DictSpec d (.delitem k) .unit (d.del k)
  | delitem_miss (d k) : d k = none → DictSpec d (.delitem k) (.err .keyError) d
  | contains (d k) : DictSpec d (.contains k) (.bool (d k).isSome) d
  | len (d l) : ItemsOf d l → DictSpec d .len (.nat l.length) d
  | keys (d l) : ItemsOf d l → DictSpec d .keys (.keys (AMap.keys l)) d
  | values (d l) : ItemsOf d l → DictSpec d .values (.vals (l.map (·.2))) d
  | items (d l) : ItemsOf d l → DictSpec d .items (.items l) d
  | get (d k x) : DictSpec d (.get k x) (.val ((d k).getD x)) d
  | pop_hit (d k v x) : d k = some v → DictSpec d (.pop k x) (.val v) (d.del k)
  | pop_default (d k x) : d k = none → DictSpec d (.pop k (some x)) (.val x) d
  | pop_miss (d k) : d k = none → DictSpec d (.pop k none) (.err .keyError) d
  | popitem (d k v c) : d k = some v → DictSpec d (.popitem c) (.pair k v) (d.del k)
  | popitem_empty (d c) : (∀ k, d k = none) → DictSpec d (.popitem c) (.err .keyError) d
  | popkeys_default (d ks x) : DictSpec d (.popkeys ks (some x)) (.vlist (d.popSeq x ks).2) (d.popSeq x ks).1
  | popkeys_all (d ks d' l) : d.popAll ks = some (d', l) → DictSpec d (.popkeys ks none) (.vlist l) d'
  | popkeys_miss (d ks) : d.popAll ks = none → DictSpec d (.popkeys ks none) (.err .keyError) d
  | setdefault_hit (d k v x) : d k = some v → DictSpec d (.setdefault k x) (.val v) d
  | setdefault_miss (d k x) : d k = none → DictSpec d (.setdefault k x) (.val x) (d.put k x)
  | update (d kvs) : DictSpec d (.update kvs) .unit (d.putAll kvs)
  | clear (d) : DictSpec d .clear .unit View.empty

inductive DictRun : View K V → List (Op K V × Out K V) → View K V → Prop
  | nil (d) : DictRun d [] d
  | cons (d op o d' tr d'') : DictSpec d op o d' → DictRun d' tr d'' → DictRun d ((op, o) :: tr) d''

theorem View.del_of_none (d : View K V) (k : K) (h : d k = none) : d.del k = d := by
  funext j; by_cases hj : j = k <;> simp [View.del, hj, h]

theorem View.put_of_some (d : View K V) (k : K) (v : V) (h : d k = some v) : d.put k v = d := by
  funext j; by_cases hj : j = k <;> simp [View.put, hj, h]

theorem View.put_comm (d : View K V) (k₁ k₂ : K) (v₁ v₂ : V) (h : k₁ ≠ k₂) :
    (d.put k₁ v₁).put k₂ v₂ = (d.put k₂ v₂).put k₁ v₁ := by
  funext j
  simp only [View.put]
  by_cases h1 : j = k₁
  · subst h1; simp [h]
  · simp [h1]

theorem View.putAll_apply (d : View K V) (l : List (K × V)) (j : K) :
    View.putAll d l j = (get? l.reverse j).or (d j) := by
  unfold View.putAll
  induction l generalizing d with
  | nil => rfl
  | cons p l ih =>
    rw [List.foldl_cons, ih, List.reverse_cons, get?_append, Option.or_assoc]
    congr 1
    simp only [View.put, get?, eq_comm (a := p.1)]
    split <;> rfl

theorem View.popAll_cons {d : View K V} {k : K} {ks : List K} {r : View K V × List V}
    (h : View.popAll d (k :: ks) = some r) :
    ∃ v r', d k = some v ∧ View.popAll (d.del k) ks = some r' ∧ r = (r'.1, v :: r'.2) := by
  dsimp only [View.popAll] at h
  cases hg : d k with
  | none => rw [hg] at h; cases h
  | some v =>
    rw [hg] at h
    obtain ⟨r', hr', rfl⟩ := Option.map_eq_some_iff.mp h
    exact ⟨v, r', rfl, hr', rfl⟩

theorem View.putAll_frame (d : View K V) (kvs : List (K × V)) (k : K) (hk : k ∉ keys kvs) :
    View.putAll d kvs k = d k := by
  unfold View.putAll
  induction kvs generalizing d with
  | nil => rfl
  | cons p kvs ih => exact (ih _ (List.not_mem_of_not_mem_cons hk)).trans (if_neg (List.ne_of_not_mem_cons hk))

theorem View.popSeq_frame (x : V) (d : View K V) (ks : List K) (k : K) (hk : k ∉ ks) :
    (View.popSeq x d ks).1 k = d k := by
  induction ks generalizing d with
  | nil => rfl
  | cons a ks ih => exact (ih _ (List.not_mem_of_not_mem_cons hk)).trans (if_neg (List.ne_of_not_mem_cons hk))

theorem View.popAll_frame (d : View K V) (ks : List K) (k : K) (hk : k ∉ ks) (r : View K V × List V)
    (hr : View.popAll d ks = some r) : r.1 k = d k := by
  induction ks generalizing d r with
  | nil => cases hr; rfl
  | cons a ks ih =>
    obtain ⟨_, r', _, hr', rfl⟩ := View.popAll_cons hr
    exact (ih _ (List.not_mem_of_not_mem_cons hk) r' hr').trans (if_neg (List.ne_of_not_mem_cons hk))

theorem view_put (m : List (K × V)) (k : K) (v : V) : get? (put m k v) = View.put (get? m) k v := by
  funext j; simp [View.put, get?_put]

theorem view_erase (m : List (K × V)) (k : K) (h : (keys m).Nodup) :
    get? (erase m k) = View.del (get? m) k := by
  funext j; simp [View.del, get?_erase m k j h]

theorem view_update (m o : List (K × V)) : get? (update m o) = View.putAll (get? m) o := by
  funext j; rw [get?_update, View.putAll_apply]

theorem itemsOf_self (m : List (K × V)) (h : (keys m).Nodup) : ItemsOf (get? m) m :=
  ⟨h, fun k v => mem_iff_get? m h k v⟩

theorem get?_none_of_nil_iff (m : List (K × V)) : m = [] ↔ ∀ k, get? m k = none := by
  cases m with
  | nil => simp [get?]
  | cons p m =>
    simp only [reduceCtorEq, false_iff]
    intro hh
    have := hh p.1
    simp [get?] at this

theorem normalize_id (m : List (K × V)) (h : (keys m).Nodup) : normalize m = m :=
  update_nil_left m h

theorem nodup_normalize (m : List (K × V)) : (keys (normalize m)).Nodup :=
  nodup_keys_update [] m List.nodup_nil

theorem mem_normalize (m : List (K × V)) (p : K × V) (hp : p ∈ normalize m) : p ∈ m :=
  (mem_update [] m p hp).resolve_left List.not_mem_nil

theorem putAll_normalize (d : View K V) (l : List (K × V)) : View.putAll d (normalize l) = View.putAll d l := by
  funext j
  have : get? (normalize l) j = get? l.reverse j := by
    rw [normalize, get?_update]; exact Option.or_none
  rw [View.putAll_apply, View.putAll_apply, get?_reverse_nodup _ j (nodup_normalize l), this]

/-! Rules in the shape the step functions compute their answers in: no hit/miss split where they are applied. -/

theorem DictSpec.getitem' (d : View K V) (k : K) :
    DictSpec d (.getitem k) (match d k with | some v => .val v | none => .err .keyError) d := by
  cases h : d k with
  | none => exact .getitem_miss d k h
  | some v => exact .getitem_hit d k v h

/-- `setdefault` as the archives that always write implement it: `d[k] = d.get(k, x)` -/
theorem DictSpec.setdefault' (d : View K V) (k : K) (x : V) :
    DictSpec d (.setdefault k x) (.val ((d k).getD x)) (d.put k ((d k).getD x)) := by
  cases h : d k with
  | none => exact .setdefault_miss d k x h
  | some v => rw [Option.getD_some, View.put_of_some d k v h]; exact .setdefault_hit d k v x h

theorem DictSpec.err_frame {d d' : View K V} {op : Op K V} {e : Exc} (h : DictSpec d op (.err e) d') : d' = d := by
  cases h <;> rfl

/-- the all-or-nothing test of `popkeys`, run on any dict `m` with the same keys as the contents -/
theorem allPresentOnce_eq {W : Type} (m : List (K × W)) (d : View K V) (ks : List K) (hn : (keys m).Nodup)
    (hd : ∀ k, has m k = (d k).isSome) : allPresentOnce m ks = (d.popAll ks).isSome := by
  induction ks generalizing m d with
  | nil => rfl
  | cons k ks ih =>
    simp only [allPresentOnce, View.popAll, hd k]
    cases d k with
    | none => rfl
    | some v =>
      simp only [Option.isSome_some, Bool.true_and, Option.isSome_map]
      refine ih _ _ (nodup_keys_erase m k hn) fun j => ?_
      rw [has_erase m k j hn, hd j]
      by_cases hj : j = k <;> simp [View.del, hj]

theorem popSeq_view (x : V) (m : List (K × V)) (ks : List K) (h : (keys m).Nodup) :
    get? (popSeq x m ks).1 = (View.popSeq x (get? m) ks).1 ∧
    (popSeq x m ks).2 = (View.popSeq x (get? m) ks).2 ∧ (keys (popSeq x m ks).1).Nodup := by
  induction ks generalizing m with
  | nil => exact ⟨rfl, rfl, h⟩
  | cons k ks ih =>
    obtain ⟨h1, h2, h3⟩ := ih (erase m k) (nodup_keys_erase m k h)
    rw [view_erase m k h] at h1 h2
    exact ⟨h1, congrArg _ h2, h3⟩

theorem popAllL_view (m : List (K × V)) (ks : List K) (h : (keys m).Nodup) (r : View K V × List V)
    (hr : View.popAll (get? m) ks = some r) :
    ∃ m', popAllL m ks = some (m', r.2) ∧ get? m' = r.1 ∧ (keys m').Nodup := by
  induction ks generalizing m r with
  | nil => cases hr; exact ⟨m, rfl, rfl, h⟩
  | cons k ks ih =>
    obtain ⟨v, r', hg, hr', rfl⟩ := View.popAll_cons hr
    obtain ⟨m', e, h1, h2⟩ := ih (erase m k) (nodup_keys_erase m k h) r' (view_erase m k h ▸ hr')
    exact ⟨m', by simp only [popAllL, hg, e, Option.map_some], h1, h2⟩

end Klepto.Backend
