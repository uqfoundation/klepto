import Klepto.Model.Keys
import Klepto.Lemmas.AMap
/-! `sorted(kwds.items())` is canonical: dicts equal as maps have the same sorted item list, and conversely. -/
namespace Klepto.Keys
open Klepto.AMap
variable {Val : Type}

/-- what is assumed of Python's ordering on the parameter names (strings): a total order -/
structure TotalOrder (le : Val → Val → Bool) : Prop where
  trans : ∀ a b c, le a b = true → le b c = true → le a c = true
  total : ∀ a b, (le a b || le b a) = true
  antisymm : ∀ a b, le a b = true → le b a = true → a = b

theorem nodup_of_nodup_keys (m : List (Val × Val)) (h : (keys m).Nodup) : m.Nodup :=
  List.Pairwise.of_map (·.1) (fun _ _ hne e => hne (congrArg _ e)) h

variable [DecidableEq Val]

theorem perm_iff_get?_eq (l₁ l₂ : List (Val × Val)) (h₁ : (keys l₁).Nodup) (h₂ : (keys l₂).Nodup) :
    l₁.Perm l₂ ↔ ∀ n, get? l₁ n = get? l₂ n := by
  constructor
  · intro hp n
    exact Option.ext fun v => by rw [← mem_iff_get? l₁ h₁, ← mem_iff_get? l₂ h₂, hp.mem_iff]
  · intro h
    refine (List.perm_ext_iff_of_nodup (nodup_of_nodup_keys _ h₁) (nodup_of_nodup_keys _ h₂)).mpr ?_
    rintro ⟨k, v⟩
    rw [mem_iff_get? l₁ h₁, mem_iff_get? l₂ h₂, h]

/-- **flat keys erase keyword order**: two keyword dicts that are equal as maps have the same
sorted item list, whatever their insertion orders were -/
theorem sorted_items_canonical (le : Val → Val → Bool) (hle : TotalOrder le)
    (l₁ l₂ : List (Val × Val)) (h₁ : (keys l₁).Nodup) (h₂ : (keys l₂).Nodup)
    (h : ∀ n, get? l₁ n = get? l₂ n) : sortedItems le l₁ = sortedItems le l₂ := by
  unfold sortedItems
  have hp : (isort (fun a b => le a.1 b.1) l₁).Perm (isort (fun a b => le a.1 b.1) l₂) :=
    (isort_perm _ l₁).trans (((perm_iff_get?_eq l₁ l₂ h₁ h₂).mpr h).trans (isort_perm _ l₂).symm)
  have tr : ∀ (a b c : Val × Val), le a.1 b.1 = true → le b.1 c.1 = true → le a.1 c.1 = true :=
    fun a b c => hle.trans a.1 b.1 c.1
  have tot : ∀ (a b : Val × Val), (le a.1 b.1 || le b.1 a.1) = true := fun a b => hle.total a.1 b.1
  refine List.Perm.eq_of_pairwise (le := fun a b => le a.1 b.1 = true) ?_
    (isort_pairwise _ tr tot l₁) (isort_pairwise _ tr tot l₂) hp
  -- items with equivalent names are one item: the names are distinct
  intro a b ha hb hab hba
  have hk : a.1 = b.1 := hle.antisymm _ _ hab hba
  obtain ⟨ka, va⟩ := a; obtain ⟨kb, vb⟩ := b
  simp only at hk; subst hk
  have e1 := (mem_iff_get? l₁ h₁ ka va).mp ((mem_isort _ _ _).mp ha)
  rw [h ka, (mem_iff_get? l₂ h₂ ka vb).mp ((mem_isort _ _ _).mp hb)] at e1
  cases e1; rfl

theorem get?_of_sortedItems_eq (le : Val → Val → Bool) (l₁ l₂ : List (Val × Val))
    (h₁ : (keys l₁).Nodup) (h₂ : (keys l₂).Nodup) (h : sortedItems le l₁ = sortedItems le l₂) :
    ∀ n, get? l₁ n = get? l₂ n :=
  (perm_iff_get?_eq l₁ l₂ h₁ h₂).mp
    ((show (sortedItems le l₁).Perm l₁ from isort_perm _ l₁).symm.trans (h ▸ (isort_perm _ l₂ : (sortedItems le l₂).Perm l₂)))

theorem encodeFlat_congr (km : KM Val) (le : Val → Val → Bool) (tyOf : Val → Val) (fast : Val → Bool) (hle : TotalOrder le)
    (a : List Val) (kw₁ kw₂ : List (Val × Val)) (h₁ : (keys kw₁).Nodup) (h₂ : (keys kw₂).Nodup)
    (h : ∀ n, get? kw₁ n = get? kw₂ n) : encodeFlat km le tyOf fast a kw₁ = encodeFlat km le tyOf fast a kw₂ := by
  unfold encodeFlat
  rw [sorted_items_canonical le hle _ _ h₁ h₂ h, ((perm_iff_get?_eq _ _ h₁ h₂).mpr h).isEmpty_eq]

end Klepto.Keys
