import Klepto.Lemmas.CallRel
import Klepto.Lemmas.WF
/-!
# C06 — Eviction follows the advertised policy (LRU / MRU / LFU / RR)

The statements are about the `# purge cache` block (`overflow`) in a well-formed state — i.e. for
every state reachable by any history (`wf_run`; `mru` with `purge` excepted, finding F27) — plus the frame
properties of a whole call.
The recency bookkeeping of `lru_cache` (a use log with duplicates + reference counts + periodic
compaction) is related to the history-level notion "order of last use" through `dkl`
(distinct keys in order of their last occurrence).
-/
namespace Klepto.C06
open AMap
variable {K V : Type} [DecidableEq K]

/-- **hit**: memory, archive and parked archive are untouched (all algorithms) -/
theorem C06_hit_frame (cfg : Cfg) (s : St K V) (ci : CallIn K V) (k : K) (v : V)
    (hk : ci.key = .ok k) (hm : get? s.c.mem k = some v) :
    (callCached cfg s ci).1.c = s.c ∧ (callCached cfg s ci).2 = .ret v 0 := by
  simp only [callCached, hk, hm]
  exact ⟨hitStep_c cfg s k v, rfl⟩

/-- **no overflow, no eviction**: the purge block is the identity while `len(cache) ≤ maxsize` -/
theorem C06_no_overflow (cfg : Cfg) (s : St K V) (vi : Option K) (h : s.c.mem.length ≤ cfg.maxsize) :
    overflow cfg s vi = some s :=
  overflow_of_le cfg s vi h

/-- **only victims disappear**: whatever a call does, an entry that stays resident keeps its
value, and an entry that disappears was resident (nothing else is touched) -/
theorem C06_frame (cfg : Cfg) (s : St K V) (ci : CallIn K V) (hn : (keys s.c.mem).Nodup) (j : K) (w : V)
    (h : get? (callCached cfg s ci).1.c.mem j = some w) :
    get? s.c.mem j = some w ∨ ci.key = .ok j := by
  obtain ⟨c2, hc2, hmv, _⟩ := callCached_rel cfg s ci hn
  rcases hmv.mem j with h1 | h1
  · rw [h1] at h
    rcases hc2 with ⟨rfl, _, _⟩ | ⟨k, v, hk, hins, _, _⟩
    · exact Or.inl h
    · by_cases hj : j = k
      · subst hj; exact Or.inr hk
      · rw [hins.get_other j hj] at h; exact Or.inl h
  · rw [h1] at h; cases h

/-- a use appends the key to the log; in recency order it moves to the most-recent end -/
theorem lru_use_recency (q : List K) (k : K) : dkl (q ++ [k]) = (dkl q).filter (· ≠ k) ++ [k] :=
  dkl_append q k

/-- compaction does not change the recency order -/
theorem lru_compaction_recency (q : List K) : dkl (compactQ q) = dkl q := by
  rw [compactQ_eq_dkl, dkl_of_nodup _ (nodup_dkl q)]

/-- **LRU**: in any well-formed state, an overflow without purge removes exactly the key `v` at
the head of the recency order; every other tracked key `x` has a use that is more recent than
every use of `v` (`x` occurs in the part of the log after `v`'s last occurrence, `v` does not);
memory loses `v` and nothing else; the recency order of the remaining log is the old one without
its head. -/
theorem C06_lru (cfg : Cfg) (s : St K V) (vi : Option K)
    (hW : WF cfg s) (ha : cfg.algo = .lru) (hp : (s.c.archived && cfg.purge) = false)
    (hover : s.c.mem.length > cfg.maxsize) (hq : s.queue ≠ []) :
    ∃ v s', overflow cfg s vi = some s' ∧
      dkl s.queue = v :: dkl s'.queue ∧
      v ∉ s'.queue ∧ (∀ x ∈ s.queue, x ≠ v → x ∈ s'.queue) ∧
      s'.c.mem = erase s.c.mem v ∧ has s.c.mem v = true := by
  obtain ⟨v, post, rc', he, hd, _, _⟩ := lruLoop_spec s.queue s.rc (hW.rcInv ha) hq
  obtain ⟨hv, hmem⟩ := mem_of_dkl_eq_cons hd
  refine ⟨v, { evictOne s v with queue := post, rc := erase rc' v }, ?_, hd, hv,
    fun x hx hne => ((hmem x).mp hx).resolve_left hne, by simp, hW.queueRes v ((hmem v).mpr (Or.inl rfl))⟩
  unfold overflow
  simp only [hover, if_true, hp, Bool.false_eq_true, if_false, ha, he]

/-- every completed mru call leaves its key at the most-recent end of the queue -/
theorem mru_post_last (cfg : Cfg) (s : St K V) (k : K) (ha : cfg.algo = .mru) :
    (post cfg s k).queue.getLast? = some k := by
  simp [post, ha]

/-- **MRU**: an overflow without purge removes exactly the last key of the recency queue — the key
of the most recent completed call before this one (`mru_post_last`) — and nothing else. -/
theorem C06_mru (cfg : Cfg) (s : St K V) (vi : Option K) (v : K)
    (hW : WF cfg s) (ha : cfg.algo = .mru) (hp : (s.c.archived && cfg.purge) = false)
    (hover : s.c.mem.length > cfg.maxsize) (hl : s.queue.getLast? = some v) :
    ∃ s', overflow cfg s vi = some s' ∧ s'.c.mem = erase s.c.mem v ∧ has s.c.mem v = true ∧
      s'.queue = s.queue.dropLast ∧ v ∉ s'.queue := by
  refine ⟨{ evictOne s v with queue := s.queue.dropLast }, ?_, by simp, hW.queueRes v (List.mem_of_getLast? hl), rfl,
    not_mem_dropLast (hW.mruNodup ha) hl⟩
  unfold overflow
  simp only [hover, if_true, hp, Bool.false_eq_true, if_false, ha, hl]

theorem lfu_fold_mem (vs : List (K × Nat)) (s : St K V) (hn : (keys s.c.mem).Nodup) (j : K) :
    get? (vs.foldl (fun s p => { evictOne s p.1 with uc := erase s.uc p.1 }) s).c.mem j =
      if j ∈ vs.map (·.1) then none else get? s.c.mem j := by
  induction vs generalizing s with
  | nil => simp
  | cons p vs ih =>
    simp only [List.foldl_cons, List.map_cons, List.mem_cons]
    rw [ih _ (by simpa using nodup_keys_erase _ _ hn)]
    simp only [evictOne_mem, get?_erase _ _ _ hn]
    by_cases h1 : j ∈ vs.map (·.1)
    · simp [h1]
    · by_cases h2 : j = p.1 <;> simp only [h1, h2, ↓reduceIte, ite_self, true_or, or_self]

/-- **LFU**: an overflow without purge removes exactly the `min n tracked` least-used tracked
entries (`n = max 2 (maxsize / 10)`): every removed entry's use count (since it entered the cache)
is no greater than that of every tracked entry that is kept; nothing else disappears. -/
theorem C06_lfu (cfg : Cfg) (s : St K V) (vi : Option K)
    (hW : WF cfg s) (ha : cfg.algo = .lfu) (hp : (s.c.archived && cfg.purge) = false)
    (hover : s.c.mem.length > cfg.maxsize) :
    ∃ s', overflow cfg s vi = some s' ∧
      let vs := nsmallest (max 2 (cfg.maxsize / 10)) s.uc
      (∀ j, get? s'.c.mem j = if j ∈ vs.map (·.1) then none else get? s.c.mem j) ∧
      vs.length = min (max 2 (cfg.maxsize / 10)) s.uc.length ∧
      (∀ v ∈ vs, v ∈ s.uc ∧ has s.c.mem v.1 = true) ∧
      (∀ v ∈ vs, ∀ r ∈ s.uc, r ∉ vs → v.2 ≤ r.2) := by
  refine ⟨(nsmallest (max 2 (cfg.maxsize / 10)) s.uc).foldl
      (fun s p => { evictOne s p.1 with uc := erase s.uc p.1 }) s, ?_, ?_⟩
  · unfold overflow
    simp only [hover, if_true, hp, Bool.false_eq_true, if_false, ha]
  · refine ⟨fun j => lfu_fold_mem _ s hW.memNodup j, length_nsmallest _ _, ?_, ?_⟩
    · intro v hv
      have := nsmallest_subset _ s.uc v hv
      exact ⟨this, hW.ucRes v.1 (List.mem_map_of_mem this)⟩
    · exact nsmallest_le _ _

/-- the use count is the number of uses since the entry entered the cache: it starts at 1 and
every later use adds one (eviction erases it, so a re-entry starts again at 1) -/
theorem lfu_use_counts (cfg : Cfg) (s : St K V) (k : K) (ha : cfg.algo = .lfu) :
    ucget (useKey cfg s k).uc k = ucget s.uc k + 1 ∧ ∀ j, j ≠ k → ucget (useKey cfg s k).uc j = ucget s.uc j := by
  simp only [useKey, ha]
  exact ⟨by rw [ucget_put]; simp, fun j hj => by rw [ucget_put]; simp [hj]⟩

/-- **RR**: an overflow without purge removes exactly one resident entry — the one
`random.choice` picked — and nothing else. -/
theorem C06_rr (cfg : Cfg) (s : St K V) (v : K)
    (hW : WF cfg s) (ha : cfg.algo = .rr) (hp : (s.c.archived && cfg.purge) = false)
    (hover : s.c.mem.length > cfg.maxsize) (hv : has s.c.mem v = true) :
    ∃ s', overflow cfg s (some v) = some s' ∧ s'.c.mem.length + 1 = s.c.mem.length ∧
      ∀ j, get? s'.c.mem j = if j = v then none else get? s.c.mem j := by
  refine ⟨evictOne s v, ?_, ?_, fun j => ?_⟩
  · unfold overflow
    simp only [hover, if_true, hp, Bool.false_eq_true, if_false, ha]
  · simp only [evictOne_mem]; exact length_erase_add_one _ _ hv
  · simp only [evictOne_mem]; exact get?_erase _ _ _ hW.memNodup

section Examples
def lru2 : Cfg := { algo := .lru, safe := false, maxsize := 2, purge := false }
def mru2 : Cfg := { algo := .mru, safe := false, maxsize := 2, purge := false }
def mk (k v : Nat) : Op Nat Nat := .call { key := .ok k, fn := .ok v, victim := none }
def c0 : Cache Nat Nat := { mem := [], arch := none, swap := none }
/-- 1, 2, hit 1, then 3 overflows: LRU evicts 2 (1 was used more recently) … -/
example : (run lru2 (St.init c0) [mk 1 10, mk 2 20, mk 1 10, mk 3 30]).1.c.mem = [(1, 10), (3, 30)] := by decide
/-- … and MRU evicts 1 (the key of the previous call) -/
example : (run mru2 (St.init c0) [mk 1 10, mk 2 20, mk 1 10, mk 3 30]).1.c.mem = [(2, 20), (3, 30)] := by decide
/-- the compaction path: `maxsize = 2`, more than twenty recorded uses of the resident key, then an
overflow still evicts the least recently used key -/
example : (run lru2 (St.init c0) ([mk 1 10, mk 2 20] ++ List.replicate 25 (mk 1 10) ++ [mk 3 30])).1.c.mem
    = [(1, 10), (3, 30)] := by decide
end Examples

end Klepto.C06
