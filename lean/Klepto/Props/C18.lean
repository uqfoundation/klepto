import Klepto.Lemmas.CallRel
/-!
# C18 — Introspection coherence: key(), lookup() and __cache__() agree with calls

In the model the three key sites (`wrapper`, `key`, `lookup`) are one function by construction, so
the statements about `lookup` are thin (`C18_key_is_slot` is not: it goes through `callCached_rel`); the property is about 36 duplicated source sites and is decided
mainly by the correspondence suite (`f.key(args)` must equal the dictionary key that appears in
`f.__cache__()`/the archive after the call, for every decorator copy).
-/
namespace Klepto.C18
open AMap
variable {K V : Type} [DecidableEq K]

/-- **lookup** returns the resident value or raises `KeyError`; it evaluates nothing and the
state — contents, archive, eviction order, statistics — is literally unchanged. -/
theorem C18_lookup (cfg : Cfg) (s : St K V) (k : K) :
    step cfg s (.lookup (.ok k)) =
      (s, match get? s.c.mem k with | some v => .ret v 0 | none => .raised .keyError 0) := by
  dsimp only [step]; cases get? s.c.mem k <;> rfl

/-- a key-pipeline failure inside `lookup`/`key` propagates (there is no `try` there, also in
`safe.py`) and changes nothing -/
theorem C18_lookup_keyfail (cfg : Cfg) (s : St K V) (e : Exc) :
    step cfg s (.lookup (.genError e)) = (s, .raised e 0) ∧
    step cfg s (.lookup (.unhashable e)) = (s, .raised e 0) := ⟨rfl, rfl⟩

/-- interleaving any number of lookups into a history changes no later output and no state -/
theorem C18_lookups_invisible (cfg : Cfg) (s : St K V) (key : KeyIn K) (ops : List (Op K V)) :
    (run cfg s (.lookup key :: ops)).1 = (run cfg s ops).1 ∧
    (run cfg s (.lookup key :: ops)).2.tail = (run cfg s ops).2 := by
  simp only [run, step_lookup_fst, List.tail_cons, and_self]

/-- **key(args) is the slot of the call**: right after a call with key `k` returned `v`,
`lookup` with the same key returns `v` or raises `KeyError` (the entry may already have been
evicted) — never another value. -/
theorem C18_key_is_slot (cfg : Cfg) (s : St K V) (ci : CallIn K V) (k : K) (v : V) (n : Nat)
    (hn : (keys s.c.mem).Nodup) (hk : ci.key = .ok k) (ho : (callCached cfg s ci).2 = .ret v n) :
    get? (callCached cfg s ci).1.c.mem k = some v ∨ get? (callCached cfg s ci).1.c.mem k = none := by
  obtain ⟨c2, hc2, hmv, _⟩ := callCached_rel cfg s ci hn
  have h2 : get? c2.mem k = some v := by
    rcases hc2 with ⟨rfl, hr, _⟩ | ⟨k', v', hk', hins, hr, _⟩
    · exact hr k v n hk ho
    · rw [hk] at hk'; cases hk'; rw [hr v n ho]; exact hins.get_self
  rcases hmv.mem k with h | h
  · left; rw [h, h2]
  · right; exact h

/-- for `inf_cache` the slot is always filled -/
theorem C18_key_is_slot_inf (cfg : Cfg) (s : St K V) (ci : CallIn K V) (k : K) (v : V) (n : Nat)
    (ha : cfg.algo = .inf) (hk : ci.key = .ok k) (ho : (callCached cfg s ci).2 = .ret v n) :
    get? (callCached cfg s ci).1.c.mem k = some v := by
  revert ho
  rw [callCached_eq_with]
  rcases callCachedWith_split cfg s ci with ⟨x, hx, hc, hr, _⟩ | ⟨s2, k', v', n', hk', hins, _, hx⟩ <;> rw [hx]
  · rw [hc]; exact hr k v n hk
  · -- the tail of `inf_cache` evicts nothing: the inserted entry is there
    rw [hk] at hk'; cases hk'
    simp only [finish, ha, if_true]
    intro ho; cases ho; exact hins.get_self

section Examples
def lru2 : Cfg := { algo := .lru, safe := true, maxsize := 2, purge := false }
def c0 : Cache Nat Nat := { mem := [(1, 10), (2, 20)], arch := none, swap := none }
example : step lru2 (St.init c0) (.lookup (.ok 2)) = (St.init c0, .ret 20 0) := by decide
example : step lru2 (St.init c0) (.lookup (.ok 3)) = (St.init c0, .raised .keyError 0) := by decide
end Examples

end Klepto.C18
