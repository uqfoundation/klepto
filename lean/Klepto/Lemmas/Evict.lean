import Klepto.Lemmas.Basic
/-! What eviction and purge do to (memory, archive), pointwise in the key: entries only ever
*move* from memory to the archive. -/
namespace Klepto
open AMap
variable {K V : Type}

def ArchNodup (c : Cache K V) : Prop := ∀ a, c.arch = some a → (keys a).Nodup

theorem archNodup_of_arch_eq {c c' : Cache K V} (h : ArchNodup c) (he : c'.arch = c.arch) : ArchNodup c' := by
  intro a ha; rw [he] at ha; exact h a ha

variable [DecidableEq K]

theorem archNodup_dump1 (c : Cache K V) (k : K) (h : ArchNodup c) : ArchNodup (c.dump1 k) := by
  unfold Cache.dump1
  split
  · rename_i a v ha hv
    intro a' ha'; cases ha'; exact nodup_keys_put _ _ _ (h a ha)
  · exact h

theorem archNodup_dumpAll (c : Cache K V) (h : ArchNodup c) : ArchNodup c.dumpAll := by
  unfold Cache.dumpAll
  split
  · rename_i a ha
    intro a' ha'; cases ha'; exact nodup_keys_update _ _ (h a ha)
  · exact h

theorem archNodup_dumpKeys (c : Cache K V) (ks : List K) (h : ArchNodup c) : ArchNodup (c.dumpKeys ks) := by
  unfold Cache.dumpKeys
  induction ks generalizing c with
  | nil => exact h
  | cons k ks ih => exact ih _ (archNodup_dump1 c k h)

@[simp] theorem aget_delMem (c : Cache K V) (k j : K) : (c.delMem k).aget j = c.aget j := rfl
@[simp] theorem aget_clearMem (c : Cache K V) (j : K) : c.clearMem.aget j = c.aget j := rfl
@[simp] theorem aget_preload (c : Cache K V) (k j : K) : (c.preload k).aget j = c.aget j :=
  aget_congr (by simp) j
@[simp] theorem aget_setMem (c : Cache K V) (m : List (K × V)) (j : K) :
    ({ c with mem := m } : Cache K V).aget j = c.aget j := rfl

/-- `dump(k)` writes exactly the listed key if it is resident; other archive entries are left alone -/
theorem C07.dump_only_resident (c : Cache K V) (k j : K) :
    (c.dump1 k).aget j = if j = k ∧ c.archived = true ∧ (get? c.mem k).isSome then get? c.mem k else c.aget j := by
  unfold Cache.dump1 Cache.aget Cache.archived
  cases ha : c.arch with
  | none => simp [ha]
  | some a =>
    cases hv : get? c.mem k with
    | none => simp [ha]
    | some v => by_cases hj : j = k <;> simp [hj, get?_put]

theorem aget_dumpAll (c : Cache K V) (j : K) (hn : (keys c.mem).Nodup) :
    c.dumpAll.aget j = match c.arch with
      | some _ => (match get? c.mem j with | some v => some v | none => c.aget j)
      | none => none := by
  unfold Cache.dumpAll
  cases ha : c.arch with
  | none => simp [Cache.aget, ha]
  | some a => simp only [Cache.aget, ha]; rw [get?_update_nodup _ _ _ hn]; cases get? c.mem j <;> rfl

/-- entries only move from memory to the archive (holds for every eviction, archived or not) -/
structure MoveRel (c c' : Cache K V) : Prop where
  mem : ∀ j, get? c'.mem j = get? c.mem j ∨ get? c'.mem j = none
  arch : ∀ j, c'.aget j = c.aget j ∨ ((get? c.mem j).isSome ∧ c'.aget j = get? c.mem j)
  swap : c'.swap = c.swap
  archived : c'.archived = c.archived
  nodup : (keys c.mem).Nodup → (keys c'.mem).Nodup

/-- with an archive attached: whatever leaves memory is in the archive with the same value -/
def Leaves (c c' : Cache K V) : Prop :=
  ∀ j, get? c'.mem j = none → (get? c.mem j).isSome → c'.aget j = get? c.mem j

theorem MoveRel.refl (c : Cache K V) : MoveRel c c :=
  ⟨fun _ => Or.inl rfl, fun _ => Or.inl rfl, rfl, rfl, id⟩

theorem Leaves.refl (c : Cache K V) : Leaves c c := by
  intro j h1 h2; rw [h1] at h2; cases h2

theorem leaves_of_mem_eq {c c' : Cache K V} (h : c'.mem = c.mem) : Leaves c c' := by
  intro j hn hs; rw [h] at hn; rw [hn] at hs; cases hs

theorem MoveRel.trans {c c' c'' : Cache K V} (h1 : MoveRel c c') (h2 : MoveRel c' c'') : MoveRel c c'' := by
  refine ⟨fun j => ?_, fun j => ?_, h2.swap.trans h1.swap, h2.archived.trans h1.archived, fun h => h2.nodup (h1.nodup h)⟩
  · rcases h2.mem j with h | h
    · rw [h]; exact h1.mem j
    · exact Or.inr h
  · rcases h2.arch j with h | ⟨hs, h⟩
    · rw [h]; exact h1.arch j
    · rcases h1.mem j with hm | hm
      · rw [hm] at hs h; exact Or.inr ⟨hs, h⟩
      · rw [hm] at hs; cases hs

theorem Leaves.trans {c c' c'' : Cache K V} (m1 : MoveRel c c') (m2 : MoveRel c' c'')
    (h1 : Leaves c c') (h2 : Leaves c' c'') : Leaves c c'' := by
  intro j hn hs
  rcases m1.mem j with hm | hm
  · have := h2 j hn (by rw [hm]; exact hs)
    rw [this, hm]
  · have h := h1 j hm hs
    rcases m2.arch j with ha | ⟨hs', _⟩
    · rw [ha, h]
    · rw [hm] at hs'; cases hs'

theorem moveRel_dump1 (c : Cache K V) (k : K) : MoveRel c (c.dump1 k) := by
  refine ⟨fun j => Or.inl (by simp), fun j => ?_, by simp, by simp, by simp⟩
  rw [C07.dump_only_resident]
  split
  · rename_i h; exact Or.inr ⟨h.1 ▸ h.2.2, h.1 ▸ rfl⟩
  · exact Or.inl rfl

theorem moveRel_dumpKeys (c : Cache K V) (ks : List K) : MoveRel c (c.dumpKeys ks) := by
  unfold Cache.dumpKeys
  induction ks generalizing c with
  | nil => exact MoveRel.refl c
  | cons k ks ih => exact (moveRel_dump1 c k).trans (ih _)

theorem moveRel_dumpAll (c : Cache K V) (hn : (keys c.mem).Nodup) : MoveRel c c.dumpAll := by
  refine ⟨fun j => Or.inl (by simp), fun j => ?_, by simp, by simp, by simp⟩
  rw [aget_dumpAll _ _ hn]
  cases ha : c.arch with
  | none => exact Or.inl (by simp [Cache.aget, ha])
  | some a => cases hv : get? c.mem j <;> simp

/-- all that the `# purge cache` block does to a cache whose memory has distinct keys: entries move to
the archive, what leaves memory of an archived cache is archived, the archive stays a dict -/
structure Moved (c c' : Cache K V) : Prop where
  rel : MoveRel c c'
  leaves : c.archived = true → Leaves c c'
  archNodup : ArchNodup c → ArchNodup c'

theorem Moved.refl (c : Cache K V) : Moved c c := ⟨MoveRel.refl c, fun _ => Leaves.refl c, id⟩

theorem Moved.trans {c c' c'' : Cache K V} (h1 : Moved c c') (h2 : Moved c' c'') : Moved c c'' :=
  ⟨h1.rel.trans h2.rel,
   fun ha => Leaves.trans h1.rel h2.rel (h1.leaves ha) (h2.leaves (h1.rel.archived.trans ha)),
   fun h => h2.archNodup (h1.archNodup h)⟩

/-- one eviction: `if archived: dump(k)`; `del cache[k]` (stated on the cache, so that M3F's loops can use it too) -/
theorem moved_evict (c : Cache K V) (k : K) (hn : (keys c.mem).Nodup) : Moved c ((c.dump1 k).delMem k) := by
  have hmem : ∀ j, get? ((c.dump1 k).delMem k).mem j = if j = k then none else get? c.mem j := fun j => by
    simp only [delMem_mem, dump1_mem, get?_erase _ _ _ hn]
  refine ⟨(moveRel_dump1 c k).trans ⟨fun j => ?_, fun _ => Or.inl rfl, rfl, rfl, fun h => nodup_keys_erase _ _ h⟩,
    fun ha j hnone hs => ?_, archNodup_dump1 c k⟩
  · rw [hmem, dump1_mem]; split <;> simp
  · rw [hmem] at hnone
    by_cases hj : j = k
    · subst hj; exact (C07.dump_only_resident c j j).trans (by simp [ha, hs])
    · rw [if_neg hj] at hnone; rw [hnone] at hs; cases hs

/-- purge: `cache.dump(); cache.clear()` -/
theorem moved_purge (c : Cache K V) (hn : (keys c.mem).Nodup) : Moved c c.dumpAll.clearMem := by
  refine ⟨(moveRel_dumpAll c hn).trans ⟨fun j => Or.inr rfl, fun _ => Or.inl rfl, rfl, rfl, fun _ => List.nodup_nil⟩,
    fun ha j _ hs => ?_, archNodup_dumpAll c⟩
  obtain ⟨a, haa⟩ := (archived_iff c).mp ha
  simp only [aget_clearMem, aget_dumpAll _ _ hn, haa]
  cases hv : get? c.mem j with
  | none => rw [hv] at hs; cases hs
  | some v => rfl

theorem moved_overflow (cfg : Cfg) (s s' : St K V) (victim : Option K) (hn : (keys s.c.mem).Nodup)
    (h : overflow cfg s victim = some s') : Moved s.c s'.c := by
  cases overflow_some h with
  | fits | unbounded | rrNone => exact Moved.refl _
  | purge => exact moved_purge s.c hn
  | lfu =>
    exact lfu_fold_induction (P := fun s' => Moved s.c s'.c) _ (Moved.refl _) fun s' k h =>
      h.trans (moved_evict s'.c k (h.rel.nodup hn))
  | lru | mru | rr => exact moved_evict s.c _ hn

theorem moved_finish (cfg : Cfg) (s2 : St K V) (k : K) (v : V) (n : Nat) (vi : Option K)
    (hn : (keys s2.c.mem).Nodup) : Moved s2.c (finish cfg s2 k v n vi).1.c := by
  rcases finish_cases cfg s2 k v n vi with ⟨_, h⟩ | h | ⟨s3, ho, h⟩ <;> rw [h]
  · exact Moved.refl _
  · exact Moved.refl _
  · rw [post_c]; exact moved_overflow cfg s2 s3 vi hn ho

end Klepto
