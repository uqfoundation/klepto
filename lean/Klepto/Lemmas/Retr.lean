import Klepto.Lemmas.Evict
/-! What is retrievable (`retr`: memory first, then the attached archive) under the two kinds of traffic
between memory and archive - *moves/copies to the archive* (`MoveRel`: `dump`, eviction, purge) and *copies to
memory* (`LoadRel`: `load`) - and under the one insertion a call makes (`Ins`). -/
namespace Klepto
open AMap
variable {K V : Type} [DecidableEq K]

/-- retrievable value: memory first, then the attached archive -/
def C07.retr (c : Cache K V) (j : K) : Option V :=
  match get? c.mem j with
  | some v => some v
  | none => c.aget j

/-- memory and archive never hold different values for one key (true of every state reached by
calls of a deterministic function; an external writer could break it, so it is a hypothesis) -/
def C07.Agree (c : Cache K V) : Prop := ∀ j w w', get? c.mem j = some w → c.aget j = some w' → w = w'

open C07

theorem retr_move {c c' : Cache K V} (h : MoveRel c c') (hl : Leaves c c') (j : K) : retr c' j = retr c j := by
  unfold retr
  cases hm : get? c.mem j with
  | some w =>
    rcases h.mem j with h1 | h1
    · rw [h1, hm]
    · rw [h1, hl j h1 (by rw [hm]; rfl), hm]
  | none =>
    have h1 : get? c'.mem j = none := by rcases h.mem j with h1 | h1 <;> simp [h1, hm]
    rcases h.arch j with h2 | ⟨hs, _⟩
    · rw [h1, h2]
    · rw [hm] at hs; cases hs

theorem agree_move {c c' : Cache K V} (h : MoveRel c c') (ha : Agree c) : Agree c' := by
  intro j w w' hm hg
  rcases h.mem j with h1 | h1
  · rw [h1] at hm
    rcases h.arch j with h2 | ⟨_, h2⟩
    · rw [h2] at hg; exact ha j w w' hm hg
    · rw [h2, hm] at hg; cases hg; rfl
  · rw [h1] at hm; cases hm

/-- entries are only copied from the archive into memory -/
structure LoadRel (c c' : Cache K V) : Prop where
  arch : c'.arch = c.arch
  swap : c'.swap = c.swap
  mem : ∀ j, get? c'.mem j = get? c.mem j ∨ ((c.aget j).isSome ∧ get? c'.mem j = c.aget j)
  nodup : (keys c.mem).Nodup → (keys c'.mem).Nodup

theorem LoadRel.refl (c : Cache K V) : LoadRel c c := ⟨rfl, rfl, fun _ => Or.inl rfl, id⟩

theorem LoadRel.trans {c c' c'' : Cache K V} (h1 : LoadRel c c') (h2 : LoadRel c' c'') : LoadRel c c'' := by
  refine ⟨h2.arch.trans h1.arch, h2.swap.trans h1.swap, fun j => ?_, fun h => h2.nodup (h1.nodup h)⟩
  rcases h2.mem j with h | h
  · rw [h]; exact h1.mem j
  · rw [aget_congr h1.arch] at h; exact Or.inr h

theorem LoadRel.has {c c' : Cache K V} (h : LoadRel c c') (j : K) (hj : has c.mem j = true) : has c'.mem j = true := by
  unfold AMap.has at hj ⊢
  rcases h.mem j with h1 | ⟨hs, h1⟩ <;> rw [h1] <;> assumption

theorem LoadRel.archived {c c' : Cache K V} (h : LoadRel c c') : c'.archived = c.archived := by
  simp [Cache.archived, h.arch]

theorem agree_load {c c' : Cache K V} (h : LoadRel c c') (ha : Agree c) : Agree c' := by
  intro j w w' hm hg
  rw [aget_congr h.arch] at hg
  rcases h.mem j with h1 | ⟨_, h1⟩
  · rw [h1] at hm; exact ha j w w' hm hg
  · rw [h1, hg] at hm; cases hm; rfl

theorem retr_load {c c' : Cache K V} (h : LoadRel c c') (ha : Agree c) (j : K) (w : V)
    (hr : retr c j = some w) : retr c' j = some w := by
  unfold retr at hr ⊢
  rw [aget_congr h.arch]
  rcases h.mem j with h1 | ⟨hs, h1⟩
  · rw [h1]; exact hr
  · rw [h1]
    cases hg : c.aget j with
    | none => rw [hg] at hs; cases hs
    | some x =>
      cases hm : get? c.mem j with
      | none => rw [hm, hg] at hr; exact hr
      | some y => rw [hm] at hr; cases hr; rw [ha j w x hm hg]

theorem loadRel_load1 (c : Cache K V) (k : K) : LoadRel c (c.load1 k) := by
  rw [load1_eq]
  cases ha : c.aget k with
  | none => exact LoadRel.refl c
  | some v =>
    refine ⟨rfl, rfl, fun j => ?_, nodup_keys_put _ _ _⟩
    simp only [get?_put]
    by_cases hj : j = k
    · subst hj; exact Or.inr ⟨by rw [ha]; rfl, by simp [ha]⟩
    · exact Or.inl (by simp [hj])

theorem loadRel_preload (c : Cache K V) (k : K) : LoadRel c (c.preload k) := by
  rw [preload_eq_load1]; exact loadRel_load1 c k

theorem loadRel_loadKeys (c : Cache K V) (ks : List K) : LoadRel c (c.loadKeys ks) := by
  unfold Cache.loadKeys
  induction ks generalizing c with
  | nil => exact LoadRel.refl c
  | cons k ks ih => exact (loadRel_load1 c k).trans (ih _)

theorem loadRel_loadAll (c : Cache K V) (han : ArchNodup c) : LoadRel c c.loadAll := by
  unfold Cache.loadAll
  split
  · rename_i a ha
    refine ⟨rfl, rfl, fun j => ?_, nodup_keys_update _ _⟩
    simp only [get?_update_nodup _ _ _ (han a ha), Cache.aget, ha]
    cases get? a j <;> simp
  · exact LoadRel.refl c

/-- `c2` is `c` with the entry `k ↦ v` inserted into memory -/
structure Ins (c c2 : Cache K V) (k : K) (v : V) : Prop where
  absent : get? c.mem k = none
  mem : c2.mem = put c.mem k v
  arch : c2.arch = c.arch
  swap : c2.swap = c.swap
  /-- the inserted value is the archived one, or the archive has nothing for `k` -/
  agree : c.aget k = some v ∨ c.aget k = none

theorem Ins.archived {c c2 : Cache K V} {k : K} {v : V} (h : Ins c c2 k v) : c2.archived = c.archived := by
  simp [Cache.archived, h.arch]

theorem Ins.aget {c c2 : Cache K V} {k : K} {v : V} (h : Ins c c2 k v) (j : K) : c2.aget j = c.aget j :=
  aget_congr h.arch j

theorem Ins.get_other {c c2 : Cache K V} {k : K} {v : V} (h : Ins c c2 k v) (j : K) (hj : j ≠ k) :
    get? c2.mem j = get? c.mem j := by
  rw [h.mem, get?_put]; simp [hj]

theorem Ins.get_self {c c2 : Cache K V} {k : K} {v : V} (h : Ins c c2 k v) : get? c2.mem k = some v := by
  rw [h.mem, get?_put]; simp

theorem Ins.nodup {c c2 : Cache K V} {k : K} {v : V} (h : Ins c c2 k v) (hn : (keys c.mem).Nodup) :
    (keys c2.mem).Nodup := by rw [h.mem]; exact nodup_keys_put _ _ _ hn

theorem agree_ins {c c2 : Cache K V} {k : K} {v : V} (h : Ins c c2 k v) (ha : Agree c) : Agree c2 := by
  intro j w w' hm hg
  rw [h.aget] at hg
  by_cases hj : j = k
  · subst hj
    rw [h.get_self] at hm; cases hm
    rcases h.agree with h1 | h1 <;> rw [h1] at hg <;> cases hg; rfl
  · rw [h.get_other j hj] at hm; exact ha j w w' hm hg

theorem retr_ins {c c2 : Cache K V} {k : K} {v : V} (h : Ins c c2 k v) (j : K) :
    retr c2 j = retr c j ∨ (j = k ∧ retr c j = none ∧ retr c2 j = some v) := by
  unfold retr
  by_cases hj : j = k
  · subst hj
    rw [h.get_self, h.absent]
    rcases h.agree with h1 | h1 <;> simp [h1]
  · rw [h.get_other j hj, h.aget]; exact Or.inl rfl

theorem ins_load (c : Cache K V) (k : K) (v : V) (hk : get? c.mem k = none) (ha : c.aget k = some v) :
    Ins c (c.preload k) k v := by
  refine ⟨hk, ?_, by simp, by simp, Or.inl ha⟩
  rw [preload_eq, ha]

theorem ins_miss (c : Cache K V) (k : K) (v : V) (hk : get? c.mem k = none) (ha : c.aget k = none) :
    Ins c { c.preload k with mem := put (c.preload k).mem k v } k v := by
  refine ⟨hk, ?_, by simp, by simp, Or.inr ha⟩
  rw [preload_eq, ha]

end Klepto
